/-
Lemmas/Json — the reader of Model/Json (serde_json reading a `HashMap<String,String>`) against its
writer, for Props/Json (C09, C10); the string and UTF-8 lemmas also serve the reader of the layout file
(Lemmas/JsonValue, C04). Read-back goes from one character up to the whole object. A reader
that succeeds answers the same with more input appended (`parseObject_ext` and the like: it never
looks past what it consumes), and so rejects every proper prefix of a text it reads to the end
(`none_of_pp`). The UTF-8 decoder reads back what the encoder writes (`decodeSeq_encodeChar`) and
accepts nothing but encodings (`decodeSeq_sound`).
-/
import RitiModel.Model.Json
import RitiModel.Lemmas.Logic
namespace Riti.Json

/-! ### proper prefixes -/

/-- `p` is a proper prefix of `t` -/
def PP {α : Type} (p t : List α) : Prop := p <+: t ∧ p ≠ t

theorem pp_length {α : Type} {p t : List α} (h : PP p t) : p.length < t.length :=
  Nat.lt_of_le_of_ne h.1.length_le fun e => h.2 (h.1.eq_of_length e)

theorem prefix_append_cases {α : Type} {A B p : List α} (h : p <+: A ++ B) :
    PP p A ∨ ∃ q, p = A ++ q ∧ q <+: B := by
  rcases List.prefix_or_prefix_of_prefix h (List.prefix_append A B) with h1 | ⟨q, rfl⟩
  · by_cases e : p = A
    · exact .inr ⟨[], by rw [e, List.append_nil], List.nil_prefix⟩
    · exact .inl ⟨h1, e⟩
  · exact .inr ⟨q, rfl, (List.prefix_append_right_inj A).1 h⟩

/-! ### one character of a string body -/

theorem hex_roundtrip : ∀ n, n < 32 → hex4 '0' '0' (hexDigit (n / 16)) (hexDigit (n % 16)) = some n := by
  decide +kernel

theorem parseBody_printChar (c : Char) (q : List Char) :
    parseBody 0 (printChar c ++ q) = push c (parseBody 0 q) := by
  -- cases 1–7 are the two-character escapes (by evaluation), case 8 is `\u00XY` for another control character,
  -- case 9 the character itself
  fun_cases printChar c with
  | case8 _ _ _ _ _ _ _ h =>
    have hlt : c.toNat < 0xD800 ∨ 0xDFFF < c.toNat := .inl (by omega)
    simp only [List.cons_append, List.nil_append]
    rw [parseBody, if_neg (by decide), if_pos rfl, decodeEscape, if_pos rfl]
    simp only [hex_roundtrip _ h, if_pos hlt, Char.ofNat_toNat]
    rfl
  | case9 h1 h2 _ _ _ _ _ h3 => rw [List.singleton_append, parseBody, if_neg h1, if_neg h2, if_neg h3]
  | _ => subst_vars; rfl

/-! ### string literals -/

theorem parseBody_printBody (s : Str) (rest : List Char) :
    parseBody 0 (printBody s ++ rest) = some (s, rest) := by
  induction s with
  | nil => simp [printBody, parseBody]
  | cons c cs ih => simp [printBody, List.append_assoc, parseBody_printChar, ih, push]

theorem skipWs_quote (t : List Char) : skipWs ('"' :: t) = '"' :: t := by
  simp [skipWs, isWs]

theorem parseString_printString (s : Str) (rest : List Char) :
    parseString (printString s ++ rest) = some (s, rest) := by
  simp [parseString, printString, skipWs_quote, parseBody_printBody]

/-! ### members -/

theorem parseMember_printMember (kv : Str × Str) (rest : List Char) :
    parseMember (printMember kv ++ rest) = some (kv, rest) := by
  simp [parseMember, printMember, List.append_assoc, parseString_printString, skipWs, isWs]

theorem printMember_eq (kv : Str × Str) : printMember kv = '"' :: (printBody kv.1 ++ ':' :: printString kv.2) := rfl

/-! ### the member list -/

theorem parseTail_printTail : ∀ (m : Entries) (fuel : Nat) (rest : List Char), m.length < fuel →
    parseTail fuel (printTail m ++ rest) = some (m, rest)
  | _, 0, _, hf => absurd hf (Nat.not_lt_zero _)
  | [], f + 1, rest, _ => by simp [printTail, parseTail, skipWs, isWs]
  | kv :: m, f + 1, rest, hf => by
    simp [printTail, parseTail, skipWs, isWs, List.append_assoc, parseMember_printMember,
      parseTail_printTail m f rest (Nat.lt_of_succ_lt_succ hf)]

/-- so the fuel that `parseObject` hands to `parseTail`, the length of the input, suffices on printed text -/
theorem length_printTail (m : Entries) : m.length < (printTail m).length := by
  induction m with
  | nil => simp [printTail]
  | cons kv m ih => simp [printTail]; omega

/-! ### the object and the whole text -/

theorem parseObject_printStore (m : Entries) (rest : List Char) :
    parseObject (printStore m ++ rest) = some (m, rest) := by
  cases m with
  | nil => simp [printStore, parseObject, skipWs, isWs]
  | cons kv m =>
    have hl : m.length < (printTail m).length + rest.length := by
      have := length_printTail m; omega
    have hm := parseMember_printMember kv (printTail m ++ rest)
    rw [printMember_eq] at hm
    simp only [List.cons_append, List.append_assoc] at hm
    simp [printStore, parseObject, skipWs, isWs, printMember_eq, List.append_assoc, hm,
      parseTail_printTail m _ rest hl]

/-! ### successes are stable under more input (the reader never looks past what it consumes) -/

theorem skipWs_ext {p : List Char} (x : List Char) {c : Char} {r : List Char} (h : skipWs p = c :: r) :
    skipWs (p ++ x) = c :: (r ++ x) := by
  induction p with
  | nil => simp [skipWs] at h
  | cons a p ih =>
    simp only [skipWs, List.cons_append] at h ⊢
    split
    · next hw => rw [if_pos hw] at h; exact ih h
    · next hw => rw [if_neg hw] at h; cases h; rfl

theorem decodeEscape_ext {p : List Char} (x : List Char) {a : Char × Nat} : decodeEscape p = some a → decodeEscape (p ++ x) = some a := by
  -- the three accepting branches (3: `\uXXXX`, 6: a surrogate pair, 12: a letter) are decided by the characters matched
  fun_cases decodeEscape p with
  | case3 _ _ _ _ _ _ hx hn => simp [decodeEscape, hx, hn]
  | case6 _ _ _ _ _ hx hn hn' _ _ _ _ _ _ _ hb _ hx' hn2 => simp [decodeEscape, hx, hn, hn', hb, hx', hn2]
  | case12 _ _ hc _ hs => simp [decodeEscape, hc, hs]
  | _ => nofun

theorem push_eq_some {c : Char} {o : Option (Str × List Char)} {s : Str} {r : List Char}
    (h : push c o = some (s, r)) : ∃ s', o = some (s', r) ∧ s = c :: s' := by
  cases o with
  | none => cases h
  | some a => cases h; exact ⟨_, rfl, rfl⟩

/-! Each reader, where it answers on `p`, answers the same on `p ++ x`, with `x` appended to what is left: along the
    definition of the reader, one case per accepting branch. -/

theorem parseBody_ext {p : List Char} (x : List Char) {k : Nat} {s : Str} {r : List Char} :
    parseBody k p = some (s, r) → parseBody k (p ++ x) = some (s, r ++ x) := by
  fun_induction parseBody k p generalizing s with
  | case2 _ _ _ ih => exact ih
  | case3 => rintro ⟨⟩; simp [parseBody]
  | case5 rest ch k hd _ ih =>
    intro h
    obtain ⟨s', h', rfl⟩ := push_eq_some h
    simp [parseBody, decodeEscape_ext x hd, ih h', push]
  | case7 c rest h1 h2 h3 ih =>
    intro h
    obtain ⟨s', h', rfl⟩ := push_eq_some h
    simp [parseBody, h1, h2, h3, ih h', push]
  | _ => nofun

theorem parseString_ext {p : List Char} (x : List Char) {s : Str} {r : List Char} :
    parseString p = some (s, r) → parseString (p ++ x) = some (s, r ++ x) := by
  fun_cases parseString p with
  | case2 r0 hs => intro h; simp [parseString, skipWs_ext x hs, parseBody_ext x h]
  | _ => nofun

theorem parseMember_ext {p : List Char} (x : List Char) {kv : Str × Str} {r : List Char} :
    parseMember p = some (kv, r) → parseMember (p ++ x) = some (kv, r ++ x) := by
  fun_cases parseMember p with
  | case4 k r0 hk r1 v r2 hv hs =>
    rintro ⟨⟩
    simp [parseMember, parseString_ext x hk, skipWs_ext x hs, parseString_ext x hv]
  | _ => nofun

theorem parseTail_ext {fuel fuel' : Nat} (hf : fuel ≤ fuel') {p : List Char} (x : List Char) {m : Entries} {r : List Char} :
    parseTail fuel p = some (m, r) → parseTail fuel' (p ++ x) = some (m, r ++ x) := by
  fun_induction parseTail fuel p generalizing fuel' m with
  | case3 f t r0 hs =>
    rintro ⟨⟩
    obtain ⟨f', rfl⟩ : ∃ f', fuel' = f' + 1 := ⟨fuel' - 1, by omega⟩
    simp [parseTail, skipWs_ext x hs]
  | case6 f t r0 kv r1 hm m' r2 ht hs _ ih =>
    rintro ⟨⟩
    obtain ⟨f', rfl⟩ : ∃ f', fuel' = f' + 1 := ⟨fuel' - 1, by omega⟩
    simp [parseTail, skipWs_ext x hs, parseMember_ext x hm, ih (Nat.le_of_succ_le_succ hf) ht]
  | _ => nofun

theorem parseObject_ext {p : List Char} (x : List Char) {m : Entries} {r : List Char} :
    parseObject p = some (m, r) → parseObject (p ++ x) = some (m, r ++ x) := by
  fun_cases parseObject p with
  | case3 r0 r1 hs hs1 => rintro ⟨⟩; simp [parseObject, skipWs_ext x hs, skipWs_ext x hs1]
  | case6 r0 c r1 hs1 hc kv r2 hm m' r3 ht hs =>
    rintro ⟨⟩
    simp [parseObject, skipWs_ext x hs, skipWs_ext x hs1, hc,
      show parseMember (c :: (r1 ++ x)) = _ from parseMember_ext x hm, parseTail_ext (Nat.le_add_right _ _) x ht]
  | _ => nofun

/-- a reader that never looks past what it consumes rejects every proper prefix of a text that it reads to the end:
    the answer on the prefix would also be the answer on the whole text, with something left over -/
theorem none_of_pp {α : Type} {rd : List Char → Option (α × List Char)}
    (hext : ∀ {p} x {a r}, rd p = some (a, r) → rd (p ++ x) = some (a, r ++ x)) {t p : List Char} {a : α} (ht : rd t = some (a, [])) (h : PP p t) :
    rd p = none := by
  obtain ⟨x, rfl⟩ := h.1
  cases ho : rd p with
  | none => rfl
  | some b =>
    have h1 := hext x ho
    rw [ht] at h1
    have hx : x = [] := (List.append_eq_nil_iff.1 (Prod.mk.inj (Option.some.inj h1)).2.symm).2
    exact absurd (by rw [hx, List.append_nil]) h.2

theorem skipWs_eq_nil_iff {l : List Char} : skipWs l = [] ↔ ∀ c ∈ l, isWs c = true := by
  induction l with
  | nil => simp [skipWs]
  | cons a l ih => by_cases h : isWs a = true <;> simp [skipWs, h, ih]

/-! ### UTF-8 layer -/

theorem utf8DecodeFrom_skip (pre r : List UInt8) : utf8DecodeFrom pre.length (pre ++ r) = utf8DecodeFrom 0 r := by
  induction pre with
  | nil => rfl
  | cons a pre ih => simp only [List.length_cons, List.cons_append, utf8DecodeFrom]; exact ih

theorem toNat_byte (n : Nat) (h : n < 256) : (n.toUInt8).toNat = n :=
  UInt8.toNat_ofNat_of_lt' h

theorem byte_eq {b : UInt8} {n : Nat} (h : b.toNat = n) : b = n.toUInt8 := by
  subst h; simp

theorem isCont_byte (x : Nat) (h : x < 0x40) : isCont (0x80 + x).toUInt8 = true := by
  rw [isCont, toNat_byte _ (by omega)]; simp; omega

theorem byte_add_sub {b : UInt8} {base : Nat} (h : base ≤ b.toNat) : (base + (b.toNat - base)).toUInt8 = b :=
  (byte_eq (by omega)).symm

theorem isCont_payload {b : UInt8} (h : isCont b = true) : b.toNat - 0x80 < 0x40 ∧ (0x80 + (b.toNat - 0x80)).toUInt8 = b := by
  have : 0x80 ≤ b.toNat ∧ b.toNat < 0xC0 := by simpa [isCont] using h
  exact ⟨by omega, byte_add_sub this.1⟩

/-! The base-64 digits of a number: the last one and the rest; the encoder's divisors `0x1000`, `0x40000` take off two
    and three digits. -/

theorem div64 (a : Nat) {x : Nat} (h : x < 0x40) : (a * 0x40 + x) / 0x40 = a := by omega

theorem mod64 (a : Nat) {x : Nat} (h : x < 0x40) : (a * 0x40 + x) % 0x40 = x := by omega

theorem div_0x1000 (m : Nat) : m / 0x1000 = m / 0x40 / 0x40 := (Nat.div_div_eq_div_mul m 0x40 0x40).symm

theorem div_0x40000 (m : Nat) : m / 0x40000 = m / 0x40 / 0x40 / 0x40 := by
  rw [Nat.div_div_eq_div_mul, Nat.div_div_eq_div_mul]

/-! `decodeSeq` on bytes given by their payloads: lead byte `base + x0`, continuation bytes `0x80 + xi`; the scalar
    value is the number with the base-64 digits `x0 x1 …` -/

theorem dec2 {x0 x1 : Nat} (l0 : x0 < 0x20) (l1 : x1 < 0x40) (r : List UInt8) :
    decodeSeq (0xC0 + x0).toUInt8 ((0x80 + x1).toUInt8 :: r) =
      if 0x80 ≤ x0 * 0x40 + x1 then some (Char.ofNat (x0 * 0x40 + x1), 1) else none := by
  unfold decodeSeq
  dsimp only
  rw [toNat_byte _ (by omega), toNat_byte _ (by omega), if_neg (by omega), if_neg (by omega), if_pos (by omega),
    isCont_byte x1 l1]
  simp only [Nat.add_sub_cancel_left, true_and]

theorem dec3 {x0 x1 x2 : Nat} (l0 : x0 < 0x10) (l1 : x1 < 0x40) (l2 : x2 < 0x40) (r : List UInt8) :
    decodeSeq (0xE0 + x0).toUInt8 ((0x80 + x1).toUInt8 :: (0x80 + x2).toUInt8 :: r) =
      if 0x800 ≤ (x0 * 0x40 + x1) * 0x40 + x2 ∧ ((x0 * 0x40 + x1) * 0x40 + x2 < 0xD800 ∨ 0xDFFF < (x0 * 0x40 + x1) * 0x40 + x2)
      then some (Char.ofNat ((x0 * 0x40 + x1) * 0x40 + x2), 2) else none := by
  unfold decodeSeq
  dsimp only
  rw [toNat_byte _ (by omega), toNat_byte _ (by omega), toNat_byte _ (by omega), if_neg (by omega), if_neg (by omega),
    if_neg (by omega), if_pos (by omega), isCont_byte x1 l1, isCont_byte x2 l2]
  simp only [Nat.add_sub_cancel_left, true_and]

theorem dec4 {x0 x1 x2 x3 : Nat} (l0 : x0 < 8) (l1 : x1 < 0x40) (l2 : x2 < 0x40) (l3 : x3 < 0x40) (r : List UInt8) :
    decodeSeq (0xF0 + x0).toUInt8 ((0x80 + x1).toUInt8 :: (0x80 + x2).toUInt8 :: (0x80 + x3).toUInt8 :: r) =
      if 0x10000 ≤ ((x0 * 0x40 + x1) * 0x40 + x2) * 0x40 + x3 ∧ ((x0 * 0x40 + x1) * 0x40 + x2) * 0x40 + x3 < 0x110000
      then some (Char.ofNat (((x0 * 0x40 + x1) * 0x40 + x2) * 0x40 + x3), 3) else none := by
  unfold decodeSeq
  dsimp only
  rw [toNat_byte _ (by omega), toNat_byte _ (by omega), toNat_byte _ (by omega), toNat_byte _ (by omega),
    if_neg (by omega), if_neg (by omega), if_neg (by omega), if_neg (by omega), if_pos (by omega),
    isCont_byte x1 l1, isCont_byte x2 l2, isCont_byte x3 l3]
  simp only [Nat.add_sub_cancel_left, true_and]

theorem decodeSeq_encodeChar (c : Char) (r : List UInt8) :
    ∃ b0 pre, utf8EncodeChar c = b0 :: pre ∧ decodeSeq b0 (pre ++ r) = some (c, pre.length) := by
  have hv : c.toNat < 0xD800 ∨ (0xDFFF < c.toNat ∧ c.toNat < 0x110000) := c.valid
  have hc := Char.ofNat_toNat c
  fun_cases utf8EncodeChar c with
  | case1 n h1 =>
    refine ⟨_, _, rfl, ?_⟩
    unfold decodeSeq; dsimp only
    rw [toNat_byte _ (by omega), if_pos h1, hc]; rfl
  | case2 n h1 h2 =>
    refine ⟨_, _, rfl, ?_⟩
    rw [List.cons_append, dec2 (by omega) (by omega), Nat.div_add_mod' n 0x40, if_pos (by omega), hc]; rfl
  | case3 n h1 h2 h3 =>
    refine ⟨_, _, rfl, ?_⟩
    rw [List.cons_append, List.cons_append, dec3 (by omega) (by omega) (by omega),
      show (n / 0x1000 * 0x40 + n / 0x40 % 0x40) * 0x40 + n % 0x40 = n by simp only [div_0x1000, Nat.div_add_mod'], if_pos (by omega), hc]; rfl
  | case4 n h1 h2 h3 =>
    refine ⟨_, _, rfl, ?_⟩
    rw [List.cons_append, List.cons_append, List.cons_append, dec4 (by omega) (by omega) (by omega) (by omega),
      show ((n / 0x40000 * 0x40 + n / 0x1000 % 0x40) * 0x40 + n / 0x40 % 0x40) * 0x40 + n % 0x40 = n by
        simp only [div_0x40000, div_0x1000, Nat.div_add_mod'],
      if_pos (by omega), hc]; rfl

theorem utf8DecodeFrom_encodeChar (c : Char) (r : List UInt8) :
    utf8DecodeFrom 0 (utf8EncodeChar c ++ r) = consO c (utf8DecodeFrom 0 r) := by
  obtain ⟨b0, pre, he, hd⟩ := decodeSeq_encodeChar c r
  rw [he, List.cons_append, utf8DecodeFrom, hd]
  dsimp only
  rw [utf8DecodeFrom_skip]

/-- What `decodeSeq` accepts is the encoding of the character it returns. Along the definition: the accepting branches
    are 1, 3, 6, 9 (one to four bytes); the encoder takes the number the decoder has put together apart into the same
    payloads (`div64`, `mod64`). -/
theorem decodeSeq_sound {b0 : UInt8} {r : List UInt8} {c : Char} {k : Nat} :
    decodeSeq b0 r = some (c, k) →
    ∃ pre r', r = pre ++ r' ∧ pre.length = k ∧ utf8EncodeChar c = b0 :: pre := by
  fun_cases decodeSeq b0 r with
  | case1 _ n0 h0 =>
    intro h; cases h
    exact ⟨[], r, rfl, rfl, by rw [utf8EncodeChar, toNat_ofNat_of_valid (by omega), if_pos h0, ← byte_eq rfl]⟩
  | case3 n0 _ h1 h2 b1 r' n hc =>
    intro h; obtain ⟨rfl, rfl⟩ := Prod.mk.inj (Option.some.inj h)
    obtain ⟨l1, e1⟩ := isCont_payload hc.1
    refine ⟨[b1], r', rfl, rfl, ?_⟩
    rw [utf8EncodeChar, toNat_ofNat_of_valid (by omega), if_neg (by omega), if_pos (by omega)]
    simp only [n, n0, div64, mod64, l1, e1, byte_add_sub (Nat.le_of_not_lt h1)]
  | case6 n0 _ _ h2 h3 b1 b2 r' n hc =>
    intro h; obtain ⟨rfl, rfl⟩ := Prod.mk.inj (Option.some.inj h)
    obtain ⟨l1, e1⟩ := isCont_payload hc.1
    obtain ⟨l2, e2⟩ := isCont_payload hc.2.1
    refine ⟨[b1, b2], r', rfl, rfl, ?_⟩
    rw [utf8EncodeChar, toNat_ofNat_of_valid (by omega), if_neg (by omega), if_neg (by omega), if_pos (by omega)]
    simp only [n, n0, div_0x1000, div64, mod64, l1, l2, e1, e2, byte_add_sub (Nat.le_of_not_lt h2)]
  | case9 n0 _ _ _ h3 h4 b1 b2 b3 r' n hc =>
    intro h; obtain ⟨rfl, rfl⟩ := Prod.mk.inj (Option.some.inj h)
    obtain ⟨l1, e1⟩ := isCont_payload hc.1
    obtain ⟨l2, e2⟩ := isCont_payload hc.2.1
    obtain ⟨l3, e3⟩ := isCont_payload hc.2.2.1
    refine ⟨[b1, b2, b3], r', rfl, rfl, ?_⟩
    rw [utf8EncodeChar, toNat_ofNat_of_valid (by omega), if_neg (by omega), if_neg (by omega), if_neg (by omega)]
    simp only [n, n0, div_0x1000, div_0x40000, div64, mod64, l1, l2, l3, e1, e2, e3, byte_add_sub (Nat.le_of_not_lt h3)]
  | _ => nofun

theorem utf8DecodeFrom_pp_encodeChar {c : Char} {b : List UInt8} (h : PP b (utf8EncodeChar c))
    (hne : b ≠ []) : utf8DecodeFrom 0 b = none := by
  obtain ⟨b0, q, rfl⟩ := List.exists_cons_of_ne_nil hne
  obtain ⟨_, pre, he, hd⟩ := decodeSeq_encodeChar c []
  rw [he] at h
  obtain ⟨rfl, hq⟩ := List.cons_prefix_cons.mp h.1
  have hq : PP q pre := ⟨hq, fun e => h.2 (e ▸ rfl)⟩
  rw [utf8DecodeFrom]
  cases hq' : decodeSeq b0 q with
  | none => rfl
  | some a =>
    exfalso
    -- `q` would start with a whole encoding `pre'` with the same lead byte: on `pre` the decoder, which returns the
    -- length of the encoding it reads, would have to answer both `pre'.length` and `pre.length`
    obtain ⟨pre', r', rfl, -, he'⟩ := decodeSeq_sound hq'
    obtain ⟨t, ht⟩ := hq.1
    obtain ⟨_, _, he'', hd'⟩ := decodeSeq_encodeChar a.1 (r' ++ t)
    rw [he'] at he''; cases he''
    rw [← List.append_assoc, ht, ← List.append_nil pre, hd] at hd'
    have hl := pp_length hq
    rw [(Prod.mk.inj (Option.some.inj hd')).2, List.length_append] at hl
    omega

theorem consO_some {c : Char} {o : Option Str} {s : Str} : consO c o = some s ↔ ∃ s', o = some s' ∧ s = c :: s' := by
  cases o <;> simp [consO, eq_comm]

theorem utf8DecodeFrom_sound {k : Nat} {b : List UInt8} {cs : Str} :
    utf8DecodeFrom k b = some cs → ∃ pre, pre.length = k ∧ b = pre ++ utf8Encode cs := by
  fun_induction utf8DecodeFrom k b generalizing cs with
  | case1 => rintro ⟨⟩; exact ⟨[], rfl, rfl⟩
  | case3 k x r ih =>
    intro h
    obtain ⟨pre, hl, rfl⟩ := ih h
    exact ⟨x :: pre, congrArg (· + 1) hl, rfl⟩
  | case5 b0 r c k hd ih =>
    intro h
    obtain ⟨s', hs', rfl⟩ := consO_some.mp h
    obtain ⟨pre, hl, e⟩ := ih hs'
    obtain ⟨pre', r', rfl, hl', he⟩ := decodeSeq_sound hd
    obtain ⟨rfl, rfl⟩ := List.append_inj e (hl'.trans hl.symm)
    exact ⟨[], rfl, by rw [utf8Encode, he]; rfl⟩
  | _ => nofun

end Riti.Json
