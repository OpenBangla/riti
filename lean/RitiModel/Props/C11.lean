/-
Props/C11 — `update_engine` on an idle context against a context newly created with the new
configuration over the same user files.  Layout change: the method IS a new one.  Same layout:
the configuration is replaced (every option is read from it at each call); the phonetic method
re-reads an auto-correct file that is newer than the one it loaded and forgets its memo, so the
edit is honoured for every word.  What is NOT re-read is the learned-selections store; and the
stale list / preselected index of the last word survive until the next key (both proved as
concrete differences, with the exact conditions under which the two contexts coincide).

Everything is read off the equations of `step` and `pUpdate` (`Lemmas/PhoneticStep`).  For the fixed
method the comparison of whole histories is a simulation, `CSim`: two contexts that differ at most in
the list last built where no call reads it (`Stale` of `Lemmas/FixedStale`) answer every call alike.
-/
import RitiModel.Lemmas.FixedStale
import RitiModel.Props.C06
import RitiModel.Props.C09
namespace Riti.C11
open Riti Riti.Gen Riti.C09 Riti.AList

/-! ### layout changed -/

/-- **update_layout_changed_is_new**: when the layout path differs, the context after
    `update_engine` is literally the context `new_with_config` builds over the same files — new
    method, new layout, new configuration; the files are not touched -/
theorem update_layout_changed_is_new (w : World) (c c' : Ctx) (fs fs' : FS) (cfg : Cfg) (p : String) (o : Out)
    (hp : c.layoutPath ≠ p) (hs : step w c fs (.update cfg p) = .ok (c', fs', o)) :
    Ctx.new w fs cfg p = some c' ∧ fs' = fs ∧ o = .unit := by
  obtain ⟨rfl, rfl, ⟨_, m, hn, rfl⟩ | ⟨h, _⟩⟩ := step_update hs
  · exact ⟨ctxNew_eq_some.2 ⟨m, hn, rfl⟩, rfl, rfl⟩
  · exact absurd h hp

/-- conversely a layout that loads always switches (the call is in contract and returns) -/
theorem update_layout_changed_switches (w : World) (c cn : Ctx) (fs : FS) (cfg : Cfg) (p : String)
    (hp : c.layoutPath ≠ p) (hn : Ctx.new w fs cfg p = some cn) :
    step w c fs (.update cfg p) = .ok (cn, fs, .unit) := by
  obtain ⟨m, hm, rfl⟩ := ctxNew_eq_some.1 hn
  simp [step, hp, hm]

/-! ### same layout: the configuration is replaced, options take effect at once -/

/-- **update_same_layout_fixed**: for a fixed layout the method state is untouched, only the
    configuration is replaced -/
theorem update_same_layout_fixed (w : World) (c : Ctx) (fs : FS) (cfg : Cfg) (l : Layout) (s : FState)
    (hm : c.m = .fixed l s) :
    step w c fs (.update cfg c.layoutPath) = .ok ({ c with cfg := cfg }, fs, .unit) := by
  simp [step, hm]

/-- same layout, phonetic: the configuration is replaced and the method reloads the auto-correct file -/
theorem update_same_layout_phonetic (w : World) (c : Ctx) (fs : FS) (cfg : Cfg) (s : PState)
    (hm : c.m = .phonetic s) :
    step w c fs (.update cfg c.layoutPath) = .ok ({ c with cfg := cfg, m := .phonetic (pUpdate fs s) }, fs, .unit) := by
  simp [step, hm]

/-- after `update_engine` the configuration of the context is the new one, whatever happened -/
theorem update_sets_cfg (w : World) (c c' : Ctx) (fs fs' : FS) (cfg : Cfg) (p : String) (o : Out)
    (hs : step w c fs (.update cfg p) = .ok (c', fs', o)) : c'.cfg = cfg ∧ c'.layoutPath = p := by
  obtain ⟨_, _, ⟨_, m, _, rfl⟩ | ⟨_, rfl⟩⟩ := step_update hs <;> exact ⟨rfl, rfl⟩

/-- **options take effect at once**: every call reads the options from the configuration stored
    in the context — a key / backspace / commit after the update is computed with the NEW
    configuration and nothing of the old one (the context has no other copy of it) -/
theorem later_calls_use_new_cfg (w : World) (cfg : Cfg) (p : String) (fs : FS) :
    (∀ s code m sel, step w ⟨cfg, p, .phonetic s⟩ fs (.key code m sel) =
      .ok (⟨cfg, p, .phonetic (pKey w.env cfg s code sel).1⟩, fs, .sugg (pKey w.env cfg s code sel).2)) ∧
    (∀ l s code m sel, step w ⟨cfg, p, .fixed l s⟩ fs (.key code m sel) =
      .ok (⟨cfg, p, .fixed l (fKey w l cfg s code m).1⟩, fs, .sugg (fKey w l cfg s code m).2)) ∧
    (∀ s ctrl, step w ⟨cfg, p, .phonetic s⟩ fs (.backspace ctrl) =
      .ok (⟨cfg, p, .phonetic (pBackspace w.env cfg s ctrl).1⟩, fs, .sugg (pBackspace w.env cfg s ctrl).2)) ∧
    (∀ l s ctrl, step w ⟨cfg, p, .fixed l s⟩ fs (.backspace ctrl) =
      .ok (⟨cfg, p, .fixed l (fBackspace w cfg s ctrl).1⟩, fs, .sugg (fBackspace w cfg s ctrl).2)) := by
  refine ⟨?_, ?_, ?_, ?_⟩ <;> intros <;> simp only [step]

/-! ### well-formed contexts -/

/-- a context is well formed when its method is the one its layout path names, with the layout
    that path loads (true of every created context and kept by every call) -/
def WF (w : World) (c : Ctx) : Prop :=
  match c.m with
  | .phonetic _ => isPhoneticPath c.layoutPath = true
  | .fixed l _ => isPhoneticPath c.layoutPath = false ∧ w.layouts c.layoutPath = some l

theorem mNew_wf {w : World} {fs : FS} {cfg : Cfg} {p : String} {m : MState} (h : mNew w fs p = some m) :
    WF w ⟨cfg, p, m⟩ := by
  obtain ⟨hp, rfl⟩ | ⟨hp, l, hl, rfl⟩ := mNew_cases h
  · exact hp
  · exact ⟨hp, hl⟩

theorem new_wf (w : World) (fs : FS) (cfg : Cfg) (p : String) (c : Ctx) (h : Ctx.new w fs cfg p = some c) : WF w c := by
  obtain ⟨m, hm, rfl⟩ := ctxNew_eq_some.1 h
  exact mNew_wf hm

theorem step_wf (w : World) (c c' : Ctx) (fs fs' : FS) (e : Event) (o : Out) (h : WF w c)
    (hs : step w c fs e = .ok (c', fs', o)) : WF w c' := by
  cases hm : c.m with
  | phonetic s =>
    cases step_phonetic hm hs with
    | switch cfg p m _ hn => exact mNew_wf hn
    | _ => simpa [WF, hm] using h
  | fixed l s =>
    cases step_fixed hm hs with
    | switch cfg p m _ hn => exact mNew_wf hn
    | _ => simpa [WF, hm] using h

/-! ### fixed layout: the idle updated context behaves exactly like a new one -/

/-- two contexts that behave alike: equal, or fixed-method contexts over the same layout and
    configuration whose states differ at most in the list last built, where it cannot be read -/
inductive CSim : Ctx → Ctx → Prop
  | refl (c : Ctx) : CSim c c
  | fixed {cfg : Cfg} {p : String} {l : Layout} {a b : FState} (h : Stale cfg a b) :
      CSim ⟨cfg, p, .fixed l a⟩ ⟨cfg, p, .fixed l b⟩

/-- the precondition of the property: `update_engine` is only called on an idle context -/
def updateIdle (c : Ctx) : Event → Prop
  | .update _ _ => c.ongoing = false
  | _ => True

/-- one call on two alike contexts: same result (same files, same output, same panic if any) and
    the contexts stay alike -/
theorem step_sim (w : World) {c d : Ctx} (fs : FS) {e : Event} (h : CSim c d) (hidle : updateIdle d e) :
    (∀ d' fs' o, step w d fs e = .ok (d', fs', o) → ∃ c', step w c fs e = .ok (c', fs', o) ∧ CSim c' d') ∧
    (∀ p, step w d fs e = .error p → step w c fs e = .error p) := by
  cases h with
  | refl => exact ⟨fun d' fs' o hs => ⟨d', hs, .refl _⟩, fun p hp => hp⟩
  | @fixed ccfg cpath l a b hst =>
    refine ⟨fun d' fs' o hs => ?_, fun p hp => ?_⟩
    · -- `c` takes the same branch of `step`; the method states stay alike
      cases step_fixed rfl hs with
      | key code m sel =>
        obtain ⟨h1, h2⟩ := fKey_stale w l ccfg a b code m hst
        exact ⟨_, by simp [step, h1], .fixed h2⟩
      | backspace ctrl =>
        obtain ⟨h1, h2⟩ := fBackspace_stale w ccfg a b ctrl hst
        exact ⟨_, by simp [step, h1], .fixed h2⟩
      | commit | finish => exact ⟨_, rfl, .fixed (fClear_stale ccfg a b hst)⟩
      | setFs f => exact ⟨_, rfl, .fixed hst⟩
      | update cfg =>
        have hb : b.rbuf = [] := ((C06.ongoing_iff b).1 hidle).1
        exact ⟨_, by simp [step], .fixed (stale_cfg_idle ccfg cfg a b hst hb)⟩
      | switch cfg p m hp hn => exact ⟨_, by simp [step, hp, hn], .refl _⟩
    · -- a fixed-layout context only panics on a layout that does not load, whatever its state
      cases e with
      | update cfg p =>
        simp only [step] at hp ⊢
        split at hp
        · next h => rw [if_pos h]; exact hp
        · cases hp
      | _ => cases hp

/-- histories in which `update_engine` is only ever called on an idle context -/
def UpdatesIdle (w : World) : Ctx → FS → List Event → Prop
  | _, _, [] => True
  | c, fs, e :: es => updateIdle c e ∧ ∀ c' fs' o, step w c fs e = .ok (c', fs', o) → UpdatesIdle w c' fs' es

/-- whole histories on two alike contexts: same outputs, same files, same panic if any -/
theorem run_sim (w : World) {evs : List Event} {c d : Ctx} {fs : FS} (h : CSim c d) (hu : UpdatesIdle w d fs evs) :
    (∀ d' fs' os, runFrom w d fs evs = .ok (d', fs', os) → ∃ c', runFrom w c fs evs = .ok (c', fs', os) ∧ CSim c' d') ∧
    (∀ p, runFrom w d fs evs = .error p → runFrom w c fs evs = .error p) := by
  induction evs generalizing c d fs with
  | nil => exact ⟨fun d' fs' os hr => by cases hr; exact ⟨c, rfl, h⟩, fun p hp => by cases hp⟩
  | cons e es ih =>
    obtain ⟨hi, hrest⟩ := hu
    obtain ⟨hok, herr⟩ := step_sim w fs h hi
    refine ⟨fun d' fs' os hr => ?_, fun p hp => ?_⟩
    · obtain ⟨d1, fs1, o, os', hs, hr1, rfl⟩ := runFrom_cons_ok hr
      obtain ⟨c1, hc1, hsim1⟩ := hok d1 fs1 o hs
      obtain ⟨c2, hc2, hsim2⟩ := (ih hsim1 (hrest d1 fs1 o hs)).1 d' fs' os' hr1
      exact ⟨c2, by simp only [runFrom, hc1, hc2], hsim2⟩
    · rcases runFrom_cons_error hp with hs | ⟨d1, fs1, o, hs, hr1⟩
      · simp only [runFrom, herr p hs]
      · obtain ⟨c1, hc1, hsim1⟩ := hok d1 fs1 o hs
        simp only [runFrom, hc1, (ih hsim1 (hrest d1 fs1 o hs)).2 p hr1]

/-- a fixed-layout context with nothing composed is alike to the new context over its layout -/
theorem csim_idle_new {c : Ctx} {l : Layout} {s : FState} (hm : c.m = .fixed l s)
    (hidle : s.rbuf = [] ∧ s.rtyped = [] ∧ s.pending = none) : CSim c ⟨c.cfg, c.layoutPath, .fixed l {}⟩ := by
  obtain ⟨cfg, p, m⟩ := c
  obtain ⟨rbuf, rtyped, pending, sg⟩ := s
  obtain ⟨rfl, rfl, rfl⟩ := hidle
  cases hm
  exact .fixed (stale_idle cfg ⟨[], [], none, sg⟩)

/-- … and so answers every history as that context does -/
theorem idle_fixed_as_new (w : World) {c : Ctx} {l : Layout} {s : FState} (fs : FS) (hm : c.m = .fixed l s)
    (hidle : s.rbuf = [] ∧ s.rtyped = [] ∧ s.pending = none) (evs : List Event)
    (hu : UpdatesIdle w ⟨c.cfg, c.layoutPath, .fixed l {}⟩ fs evs) :
    (∀ cn' fs' os, runFrom w ⟨c.cfg, c.layoutPath, .fixed l {}⟩ fs evs = .ok (cn', fs', os) →
      ∃ c', runFrom w c fs evs = .ok (c', fs', os)) ∧
    (∀ p, runFrom w ⟨c.cfg, c.layoutPath, .fixed l {}⟩ fs evs = .error p → runFrom w c fs evs = .error p) := by
  obtain ⟨hok, herr⟩ := run_sim w (csim_idle_new hm hidle) hu
  exact ⟨fun cn' fs' os hr => (hok cn' fs' os hr).imp (fun _ h => h.1), herr⟩

/-- **update_idle_fixed_as_new**: fixed layout, idle context (`Idle` of C06: nothing composed, no raw
    keys, no pending sign — the state every commit / finish / emptying backspace leaves),
    `update_engine` with the same layout path and ANY new configuration.  Then for EVERY later
    history (in which `update_engine` is again only called when idle) the updated context and a
    context newly created with that configuration over the same files return exactly the same
    outputs, leave the same files, and panic at the same call if at all. -/
theorem update_idle_fixed_as_new (w : World) (c : Ctx) (fs : FS) (cfg : Cfg) (l : Layout) (s : FState)
    (hwf : WF w c) (hm : c.m = .fixed l s) (hidle : s.rbuf = [] ∧ s.rtyped = [] ∧ s.pending = none)
    (evs : List Event) :
    ∃ cu cn, step w c fs (.update cfg c.layoutPath) = .ok (cu, fs, .unit) ∧
      Ctx.new w fs cfg c.layoutPath = some cn ∧
      (UpdatesIdle w cn fs evs →
        (∀ cn' fs' os, runFrom w cn fs evs = .ok (cn', fs', os) → ∃ cu', runFrom w cu fs evs = .ok (cu', fs', os)) ∧
        (∀ p, runFrom w cn fs evs = .error p → runFrom w cu fs evs = .error p)) := by
  simp only [WF, hm] at hwf
  refine ⟨_, _, hm ▸ update_same_layout_fixed w c fs cfg l s hm, ctxNew_fixed w fs cfg hwf.1 hwf.2,
    idle_fixed_as_new w (c := ⟨cfg, c.layoutPath, .fixed l s⟩) fs rfl hidle evs⟩

/-- the outputs of a run (none if it panicked) -/
def outs : Res (Ctx × FS × List Out) → Option (List Out)
  | .ok (_, _, os) => some os
  | .error _ => none

/-- the idleness condition cannot be dropped (FINDING, minor): the fixed method keeps the candidate
    list of the last word.  Suggestions off, one key typed, then `update_engine` MID-WORD turns
    suggestions on, then a key without a value: the old context shows the previous word's list
    (`খ`) for the new word `ক`; a new context shows an empty list. -/
theorem midword_update_shows_stale_list :
    let lay : Layout := fun _ => some ['ক']
    let w : World := ⟨envS, fun _ => some lay, sortStable⟩
    let evs : List Event := [.key 2 0 0, .update { fixedSuggestion := true } "x", .key 0 0 0]
    let old : Ctx := ⟨{}, "x", .fixed lay (fClear { suggestions := [.first ['খ']] })⟩
    let fresh : Ctx := ⟨{}, "x", .fixed lay {}⟩
    outs (runFrom w old {} evs) = some [.sugg (.single ['ক'] false), .unit, .sugg (.full ['ক'] [['খ']] 0 false)] ∧
    outs (runFrom w fresh {} evs) = some [.sugg (.single ['ক'] false), .unit, .sugg (.full ['ক'] [] 0 false)] := by
  decide +kernel

/-! ### same layout, phonetic: the auto-correct file -/

/-- **update_phonetic_reload**: exactly what `update_engine` does to the phonetic method.
    (a) a file newer than the one loaded: the user list becomes the file's content (empty if
    unreadable), the memo is EMPTIED (the clause repaired by `fix:` 7364a28) and the mtime recorded;
    (b) no file after one had been loaded: list and memo emptied, mtime reset;
    (c) otherwise nothing changes. -/
theorem update_phonetic_reload (fs : FS) (s : PState) :
    (∀ t parsed, fs.ac = some (t, parsed) → t > s.modified →
      pUpdate fs s = { s with userAutocorrect := parsed.getD [], cache := [], modified := t }) ∧
    (fs.ac = none → s.modified ≠ 0 →
      pUpdate fs s = { s with userAutocorrect := [], cache := [], modified := 0 }) ∧
    (∀ t parsed, fs.ac = some (t, parsed) → t ≤ s.modified → pUpdate fs s = s) ∧
    (fs.ac = none → s.modified = 0 → pUpdate fs s = s) :=
  ⟨fun _ _ => pUpdate_of_newer, pUpdate_of_gone, fun _ _ => pUpdate_of_not_newer, pUpdate_of_never⟩

/-- the file system keeps its promise: a file whose mtime is not newer than the recorded one still
    has the content the context loaded (every edit advances the mtime), and a missing file with
    nothing recorded means nothing was loaded -/
def EditAdvancesClock (fs : FS) (s : PState) : Prop :=
  match fs.ac with
  | some (t, parsed) => t ≤ s.modified → s.userAutocorrect = parsed.getD []
  | none => s.modified = 0 → s.userAutocorrect = []

/-- a new method satisfies the promise for the files it was created over -/
theorem new_clock (fs : FS) : EditAdvancesClock fs (pNew fs) := by
  unfold EditAdvancesClock; rw [pNew_userAutocorrect]
  rcases fs.ac with _ | ⟨t, p⟩ <;> exact fun _ => rfl

/-- … and a reload keeps it (the promise is only ever broken by the outside world) -/
theorem update_clock (fs : FS) (s : PState) (h : EditAdvancesClock fs s) : EditAdvancesClock fs (pUpdate fs s) := by
  unfold EditAdvancesClock at h ⊢
  rcases pUpdate_four fs s with ⟨t, parsed, hac, _, e⟩ | ⟨_, _, _, _, e⟩ | ⟨hac, _, e⟩ | ⟨_, _, e⟩ <;> rw [e]
  · rw [hac]; exact fun _ => rfl
  · exact h
  · rw [hac]; exact fun _ => rfl
  · exact h

/-- FINDING (corner case): the recorded mtime 0 doubles as "no file loaded".  A user file whose mtime
    is exactly the epoch is loaded by a new context, but its later removal is not noticed by
    `update_engine` (and, symmetrically, such a file appearing later is never loaded): the promise
    `EditAdvancesClock` fails although no edit went unnoticed by the clock -/
theorem epoch_mtime_removal_missed :
    let fs : FS := { ac := some (0, some [(['a'], ['x'])]) }
    let gone : FS := { ac := none }
    (pUpdate gone (pNew fs)).userAutocorrect = [(['a'], ['x'])] ∧ (pNew gone).userAutocorrect = [] ∧
    (pUpdate fs (pNew gone)).userAutocorrect = [] ∧ (pNew fs).userAutocorrect = [(['a'], ['x'])] := by decide

/-- **the edited file is honoured**: under `EditAdvancesClock` the user list after `update_engine`
    is the list a new context would load, whatever the state of the file (readable, unreadable, gone) -/
theorem update_userAutocorrect_as_new (fs : FS) (s : PState) (hclock : EditAdvancesClock fs s) :
    (pUpdate fs s).userAutocorrect = (pNew fs).userAutocorrect := by
  unfold EditAdvancesClock at hclock
  rw [pNew_userAutocorrect]
  rcases pUpdate_four fs s with ⟨t, parsed, hac, _, e⟩ | ⟨t, parsed, hac, ht, e⟩ | ⟨hac, _, e⟩ | ⟨hac, hm, e⟩ <;> rw [e]
  · rw [hac]
  · rw [hac] at hclock ⊢; exact hclock ht
  · rw [hac]
  · rw [hac] at hclock ⊢; exact hclock hm

/-- the statement WITHOUT `EditAdvancesClock` is false: a file edited without its mtime advancing
    (same-second edit on a coarse clock, `cp -p`, `touch -r`) is ignored by `update_engine` while a
    new context loads it -/
theorem edit_without_clock_ignored :
    let fs : FS := { ac := some (5, some [(['a'], ['x'])]) }
    let fs' : FS := { ac := some (5, some [(['a'], ['y'])]) }
    (pUpdate fs' (pNew fs)).userAutocorrect = [(['a'], ['x'])] ∧ (pNew fs').userAutocorrect = [(['a'], ['y'])] := by
  decide

/-- **words typed before the edit**: after a reload that replaced the list, every later text gets
    exactly the candidates a new context computes — the memo holds nothing computed with the old list -/
theorem reload_candidates_as_new (env : Env) (cfg : Cfg) (fs : FS) (s : PState) (t : Nat) (parsed : Option Store)
    (hac : fs.ac = some (t, parsed)) (ht : t > s.modified) (term : Str) :
    (suggest env cfg (pUpdate fs s) term).2.1 = (suggest env cfg (pNew fs) term).2.1 := by
  rw [pUpdate_of_newer hac ht, suggest_list, suggest_list, pNew_userAutocorrect, hac]; rfl

/-- the same when the file has been removed -/
theorem removed_candidates_as_new (env : Env) (cfg : Cfg) (fs : FS) (s : PState)
    (hac : fs.ac = none) (hm : s.modified ≠ 0) (term : Str) :
    (suggest env cfg (pUpdate fs s) term).2.1 = (suggest env cfg (pNew fs) term).2.1 := by
  rw [pUpdate_of_gone hac hm, suggest_list, suggest_list, pNew_userAutocorrect, hac]; rfl

/-- the regression the fix removed, as a concrete run: `a` typed (memo filled with the old
    auto-correction `x`), the file edited to `a ↦ y`, `update_engine`; typing `a` again offers `y` -/
theorem memo_not_stale_after_reload :
    let env : Env := { envS with dictPhonetic := fun _ => some [] }
    let cfg : Cfg := { phoneticSuggestion := true }
    let fs : FS := { ac := some (5, some [(['a'], ['x'])]) }
    let fs' : FS := { ac := some (6, some [(['a'], ['y'])]) }
    let s₁ := (pCreateSuggestion env cfg { pNew fs with buffer := ['a'] }).1
    let s₂ := pUpdate fs' { s₁ with buffer := [] }
    let s₃ := (pCreateSuggestion env cfg { s₂ with buffer := ['a'] }).1
    s₁.suggestions.map Rank.text = [['x'], ['a']] ∧ s₁.cache ≠ [] ∧ s₂.cache = [] ∧
    s₃.suggestions.map Rank.text = [['y'], ['a']] := by decide +kernel

/-! ### same layout, phonetic: the whole state against a new one -/

/-- **update_phonetic_matches_new_partial**.  Idle context, `update_engine`, same files `fs`.
    Against `pNew fs`:
    * `buffer` — both empty;
    * `userAutocorrect` — equal under `EditAdvancesClock`;
    * `cache` — empty like the new one whenever a reload happened, otherwise the old memo is kept
      together with the (unchanged) list it was computed with;
    * `selections` — equal IF the file holds the in-memory store (`fs.sel = .parsed s.selections`:
      every save succeeded, no derived entry is waiting to be written, nobody else wrote the file);
      NOT in general (`selections_not_reread`);
    * `modified` — equal when the file is readable or absent (an unreadable newer file records its
      mtime, a new context records none);
    * `suggestions`, `prevSelection` — NOT reset: the last word's list and index stay until the next
      key builds a list (`stale_list_survives_update`, `first_key_forgets_stale`). -/
theorem update_phonetic_matches_new_partial (fs : FS) (s : PState) (hidle : s.buffer = [])
    (hclock : EditAdvancesClock fs s) :
    (pUpdate fs s).buffer = (pNew fs).buffer ∧
    (pUpdate fs s).userAutocorrect = (pNew fs).userAutocorrect ∧
    ((pUpdate fs s).cache = (pNew fs).cache ∨
      ((pUpdate fs s).cache = s.cache ∧ (pUpdate fs s).userAutocorrect = s.userAutocorrect)) ∧
    (fs.sel = .parsed s.selections → (pUpdate fs s).selections = (pNew fs).selections) ∧
    ((∀ t, fs.ac ≠ some (t, none)) → (∀ t p, fs.ac = some (t, p) → s.modified ≤ t) →
      (pUpdate fs s).modified = (pNew fs).modified) := by
  refine ⟨?_, update_userAutocorrect_as_new fs s hclock, ?_, ?_, ?_⟩
  · rw [pUpdate_buffer, hidle]; rfl
  · rcases pUpdate_cases fs s with h | ⟨_, _, h⟩ <;> rw [h]
    · exact .inr ⟨rfl, rfl⟩
    · exact .inl rfl
  · intro h; rw [pUpdate_selections, pNew_selections, h]; rfl
  · intro hread hmono
    rw [pNew_modified]
    rcases pUpdate_four fs s with ⟨t, p, hac, _, e⟩ | ⟨t, p, hac, ht, e⟩ | ⟨hac, _, e⟩ | ⟨hac, hm, e⟩ <;> rw [e, hac]
    · cases p with | none => exact absurd hac (hread t) | some _ => rfl
    · -- a readable file that is not newer has, by `hmono`, exactly the recorded mtime
      cases p with | none => exact absurd hac (hread t) | some _ => exact Nat.le_antisymm (hmono t _ hac) ht
    · exact hm

/-- exact coincidence: when a reload of a readable file happened, every save had succeeded and the
    context is idle, the updated method IS the new one except for the stale list and index -/
theorem update_reload_equals_new_up_to_stale {fs : FS} {s : PState} {t : Nat} {ua : Store}
    (hidle : s.buffer = []) (hac : fs.ac = some (t, some ua)) (ht : t > s.modified)
    (hsel : fs.sel = .parsed s.selections) :
    { pUpdate fs s with suggestions := [], prevSelection := 0 } = pNew fs := by
  simp [pUpdate, pNew, hac, ht, hsel, hidle, FileState.content]

/-- `selections` is NOT re-read by `update_engine`: a choice whose save failed (or a derived entry
    never written, or a file changed by another process) is in the updated context and not in a new one -/
theorem selections_not_reread :
    let s : PState := { selections := [(['e'], ['ে'])] }
    let fs : FS := { sel := .absent }
    (pUpdate fs s).selections = [(['e'], ['ে'])] ∧ (pNew fs).selections = [] := by decide

/-- **the full statement is false** for the phonetic method: an idle updated method is not, in
    general, the method a new context gets over the same files -/
theorem update_is_not_new : ¬ (∀ (fs : FS) (s : PState), s.buffer = [] →
    (pUpdate fs s).selections = (pNew fs).selections) := by
  intro h
  have := h { sel := .absent } { selections := [(['e'], ['ে'])] } rfl
  revert this; decide

/-- … and it shows: the preselected index for `e` is 1 in the updated context and 0 in a new one -/
theorem selections_not_reread_observable :
    let cfg : Cfg := { phoneticSuggestion := true }
    let s : PState := { selections := [(['e'], ['ে'])] }
    let fs : FS := { sel := .absent }
    (pCreateSuggestion envQ cfg { pUpdate fs s with buffer := ['e'] }).1.prevSelection = 1 ∧
    (pCreateSuggestion envQ cfg { pNew fs with buffer := ['e'] }).1.prevSelection = 0 := by decide +kernel

/-! ### the stale list and index -/

/-- the candidate list and preselected index of the last word are not reset by `update_engine` -/
theorem stale_list_survives_update (fs : FS) (s : PState) :
    (pUpdate fs s).suggestions = s.suggestions ∧ (pUpdate fs s).prevSelection = s.prevSelection :=
  ⟨pUpdate_suggestions fs s, pUpdate_prevSelection fs s⟩

/-- **first_key_forgets_stale**: with suggestions on, the first key that types a character
    overwrites both; from then on nothing of them is left — state and output are those of a
    method that had them reset -/
theorem first_key_forgets_stale (env : Env) {cfg : Cfg} (s : PState) {key : Nat} (sel : Nat) {ch : Char}
    (hk : keycodeToChar key = some ch) (hcfg : cfg.phoneticSuggestion = true) :
    pKey env cfg s key sel = pKey env cfg { s with suggestions := [], prevSelection := 0 } key sel := by
  simp [pKey, hk, pCreateSuggestion, hcfg, suggest]

/-- with suggestions off the two fields are never read (a commit learns nothing) nor written -/
theorem stale_unread_when_off (cfg : Cfg) (s : PState) (i : Nat) (hcfg : cfg.phoneticSuggestion = false) :
    pCommit cfg s i = .ok ({ s with buffer := [] }, none) := pCommit_off cfg s i hcfg

/-- **after update + reload + first key the two contexts are EQUAL**: idle context, readable newer
    file, store in sync with the file, suggestions on; after the first character key the updated
    method and the new one are the same state and returned the same suggestion — hence every later
    event behaves identically -/
theorem update_then_key_is_new_then_key (env : Env) {cfg : Cfg} {fs : FS} {s : PState} {t : Nat} {ua : Store}
    {key : Nat} (sel : Nat) {ch : Char}
    (hidle : s.buffer = []) (hac : fs.ac = some (t, some ua)) (ht : t > s.modified)
    (hsel : fs.sel = .parsed s.selections)
    (hk : keycodeToChar key = some ch) (hcfg : cfg.phoneticSuggestion = true) :
    pKey env cfg (pUpdate fs s) key sel = pKey env cfg (pNew fs) key sel := by
  rw [first_key_forgets_stale env (pUpdate fs s) sel hk hcfg, update_reload_equals_new_up_to_stale hidle hac ht hsel]

/-- FINDING (minor): a `commit` made on the idle updated context BEFORE any key reads the stale
    index and list.  Here the last word had index 1 preselected; `commit 0` with nothing typed
    learns the empty word ↦ the old first candidate and rewrites the selections file, while in a new
    context the same call does nothing.  (The same happens without any `update_engine`: it is the
    idle state, not the update, that keeps the two fields — see C06.) -/
theorem commit_before_typing_differs :
    let cfg : Cfg := { phoneticSuggestion := true }
    let s : PState := { suggestions := [.other ['এ'] 0, .other ['ে'] 10], prevSelection := 1, selections := [(['e'], ['ে'])] }
    let fs : FS := { sel := .parsed [(['e'], ['ে'])] }
    (okState (pCommit cfg (pUpdate fs s) 0)).selections = [(['e'], ['ে']), ([], ['এ'])] ∧
    (okState (pCommit cfg (pNew fs) 0)).selections = [(['e'], ['ে'])] := by decide +kernel

/-! ### at the level of the API -/

/-- **update_then_key_as_new** (API): under the conditions of `update_then_key_is_new_then_key`, the
    call sequence `update_engine; key` on the old context and `new_with_config; key` give the same
    context, the same files and the same suggestion -/
theorem update_then_key_as_new (w : World) (c : Ctx) (fs : FS) (cfg : Cfg) (s : PState) (t : Nat) (ua : Store)
    (code m sel : Nat) (ch : Char)
    (hwf : WF w c) (hm : c.m = .phonetic s)
    (hidle : s.buffer = []) (hac : fs.ac = some (t, some ua)) (ht : t > s.modified)
    (hsel : fs.sel = .parsed s.selections)
    (hk : keycodeToChar code = some ch) (hcfg : cfg.phoneticSuggestion = true) :
    ∃ cn, Ctx.new w fs cfg c.layoutPath = some cn ∧
      runFrom w c fs [.update cfg c.layoutPath, .key code m sel] =
        (runFrom w cn fs [.key code m sel]).map (fun r => (r.1, r.2.1, .unit :: r.2.2)) := by
  simp only [WF, hm] at hwf
  refine ⟨_, ctxNew_phonetic w fs cfg hwf, ?_⟩
  simp only [runFrom, update_same_layout_phonetic w c fs cfg s hm]
  simp only [step, update_then_key_is_new_then_key w.env sel hidle hac ht hsel hk hcfg]
  rfl

/-! ### non-vacuity -/

/-- the hypotheses of `update_then_key_is_new_then_key` on files and state hold in a concrete case, and the
    reload does what the theorem rests on -/
example :
    let fs : FS := { sel := .parsed [(['e'], ['ে'])], ac := some (6, some [(['a'], ['y'])]) }
    let s : PState := { selections := [(['e'], ['ে'])], userAutocorrect := [(['a'], ['x'])], modified := 5,
                        cache := [(['a'], [.first ['x']])], suggestions := [.first ['x']], prevSelection := 0 }
    s.buffer = [] ∧ fs.ac = some (6, some [(['a'], ['y'])]) ∧ 6 > s.modified ∧ fs.sel = .parsed s.selections ∧
    (pUpdate fs s).userAutocorrect = [(['a'], ['y'])] ∧ (pUpdate fs s).cache = [] := by
  refine ⟨rfl, rfl, by decide, rfl, by decide, by decide⟩

end Riti.C11
