/-
Lemmas/Candidates — the candidate list of the phonetic method in normal form, and where its items come from.

The list handed to the sort is `core.map (wrapR pre trail) ++ raw` (`addExtras_eq`): core items (memo
items, suffix joins, the transliteration, emoji found by name) are wrapped in the punctuation, raw items (typed
text, emoticon emoji) are not.  `BaseSrc` names the three sources of a dictionary-stage item; `forall_mem_suggestList`
reduces "every candidate satisfies `Q`" to one check per source; `sort_addExtras_rel2` compares the sorted lists of
two inputs with the same core items.  (The fixed method's counterpart is `forall_mem_fDict` in Lemmas/FixedSuggest.)
These are stated for arbitrary `parts`, over `sortStable (addExtras env cfg term parts (dictList env cache parts))`:
`suggestList env cfg cache term` is that list for `parts := preparedParts env cfg term`, by unfolding, and nothing
here depends on how the typed text was split.
-/
import RitiModel.Model.Context
import RitiModel.Lemmas.Rank
import RitiModel.Lemmas.Phonetic
import RitiModel.Lemmas.Sort
namespace Riti
open Gen

/-! ### wrapping -/

/-- `change_item(pre + item + trail)` -/
def wrapR (p t : Str) (r : Rank) : Rank := r.setText (p ++ r.text ++ t)

@[simp] theorem wrapR_text (p t : Str) (r : Rank) : (wrapR p t r).text = p ++ r.text ++ t := by simp [wrapR]
@[simp] theorem wrapR_variant (p t : Str) (r : Rank) : (wrapR p t r).variant = r.variant := by simp [wrapR]
@[simp] theorem wrapR_num (p t : Str) (r : Rank) : (wrapR p t r).num = r.num := by simp [wrapR]
@[simp] theorem skel_wrapR (p t : Str) (r : Rank) : skel (wrapR p t r) = skel r := skel_setText _ _

theorem wrapR_nil (r : Rank) : wrapR [] [] r = r := by simp [wrapR, Rank.setText_text]

/-- `wrapAll` wraps every item: its "both parts empty" shortcut changes nothing -/
theorem wrapAll_eq (parts : Parts) (l : List Rank) : wrapAll parts l = l.map (wrapR parts.pre parts.trail) := by
  unfold wrapAll
  split
  · rfl
  · next h =>
    obtain ⟨hp, ht⟩ : parts.pre = [] ∧ parts.trail = [] := by simpa using h
    rw [hp, ht, funext wrapR_nil, List.map_id']

/-! ### the dictionary stage -/

/-- the dictionary / suffix / auto-correct / transliteration items before wrapping -/
def baseItems (env : Env) (cache : Memo) (w : Str) : List Rank :=
  pushChecked ((addSuffix env cache w).foldl pushChecked []) (.last (env.convert w) 2)

/-- `suggestion_with_dict`: de-duplication happens on the unwrapped items, then every item is wrapped -/
theorem dictList_eq (env : Env) (cache : Memo) (parts : Parts) :
    dictList env cache parts = (baseItems env cache parts.word).map (wrapR parts.pre parts.trail) := by
  simp only [dictList, wrapAll_eq, baseItems]

/-- where an item of the dictionary stage for the word `w` comes from: the memo entry of `w`, the memo entry of a
    proper prefix joined to a known suffix (`change_item` keeps class and number), or the transliteration -/
inductive BaseSrc (env : Env) (cache : Memo) (w : Str) : Rank → Prop
  | memo {e : List Rank} {b : Rank} : alookup cache w = some e → b ∈ e → BaseSrc env cache w b
  | joined {k r sfx j : Str} {e : List Rank} {b : Rank} : 2 < w.length → (k, r) ∈ splitPoints w → env.suffix r = some sfx →
      alookup cache k = some e → b ∈ e → joinChecked b.text sfx = some j → BaseSrc env cache w (b.setText j)
  | translit : BaseSrc env cache w (.last (env.convert w) 2)

theorem mem_suffixedAt {env : Env} {cache : Memo} {ks : Str × Str} {r : Rank} :
    r ∈ suffixedAt env cache ks ↔
      ∃ sfx e b j, env.suffix ks.2 = some sfx ∧ alookup cache ks.1 = some e ∧ b ∈ e ∧
        joinChecked b.text sfx = some j ∧ b.setText j = r := by
  unfold suffixedAt
  cases env.suffix ks.2 <;> cases alookup cache ks.1 <;> simp

theorem mem_addSuffix {env : Env} {cache : Memo} {w : Str} {r : Rank} :
    r ∈ addSuffix env cache w ↔
      (∃ e, alookup cache w = some e ∧ r ∈ e) ∨ (2 < w.length ∧ ∃ ks ∈ splitPoints w, r ∈ suffixedAt env cache ks) := by
  have hb : r ∈ (alookup cache w).getD [] ↔ ∃ e, alookup cache w = some e ∧ r ∈ e := by
    cases alookup cache w <;> simp
  unfold addSuffix
  split <;> simp [*]

theorem mem_baseItems {env : Env} {cache : Memo} {w : Str} {r : Rank} (h : r ∈ baseItems env cache w) :
    BaseSrc env cache w r := by
  rcases mem_pushChecked h with h | rfl
  · rcases mem_addSuffix.mp ((mem_foldl_pushChecked h).resolve_left List.not_mem_nil) with
      ⟨e, he, hr⟩ | ⟨hlen, ks, hks, hr⟩
    · exact .memo he hr
    · obtain ⟨sfx, e, b, j, hs, he, hb, hj, rfl⟩ := mem_suffixedAt.mp hr
      exact .joined hlen hks hs he hb hj
  · exact .translit

/-- every source is represented, by its text only: `push_checked` keeps the first item of each text -/
theorem BaseSrc.exists_text {env : Env} {cache : Memo} {w : Str} {r : Rank} (h : BaseSrc env cache w r) :
    ∃ y ∈ baseItems env cache w, y.text = r.text := by
  have hadd : r ∈ addSuffix env cache w → ∃ y ∈ baseItems env cache w, y.text = r.text := fun hr =>
    (exists_text_foldl_pushChecked [] hr).imp fun y hy => ⟨mem_pushChecked_of_mem hy.1, hy.2⟩
  cases h with
  | translit => exact exists_text_pushChecked _ _
  | memo he hb => exact hadd (mem_addSuffix.mpr (.inl ⟨_, he, hb⟩))
  | joined hlen hks hs he hb hj =>
    exact hadd (mem_addSuffix.mpr (.inr ⟨hlen, _, hks, mem_suffixedAt.mpr ⟨_, _, _, _, hs, he, hb, hj, rfl⟩⟩))

/-- what `computeEntry` stores: auto-correct (`First`) and dictionary (`Other`) items -/
def MemoClean (cache : Memo) : Prop :=
  ∀ k e, alookup cache k = some e → ∀ r ∈ e, r.variant = .first ∨ r.variant = .other

theorem memoClean_nil : MemoClean [] := by
  intro k e h; simp [alookup] at h

theorem computeEntry_clean (env : Env) (ua : Store) (w : Str) :
    ∀ r ∈ computeEntry env ua w, r.variant = .first ∨ r.variant = .other := by
  intro r hr
  rcases mem_computeEntry.mp hr with ⟨_, _, rfl⟩ | ⟨_, _, _, _, rfl⟩
  · exact Or.inl rfl
  · exact Or.inr rfl

/-- filling the memo for a word keeps it clean: so every memo reachable from the empty one is clean -/
theorem memoClean_fill (env : Env) (ua : Store) (cache : Memo) (w : Str) (h : MemoClean cache) :
    MemoClean (memoFill env ua cache w) :=
  memoFill_forall (Q := fun _ e => ∀ r ∈ e, r.variant = .first ∨ r.variant = .other) h (computeEntry_clean env ua w)

theorem BaseSrc.kind {env : Env} {cache : Memo} {w : Str} {r : Rank} (hc : MemoClean cache)
    (h : BaseSrc env cache w r) : r.variant = .first ∨ r.variant = .other ∨ (r.variant = .last ∧ r.num = 2) := by
  cases h with
  | memo he hb => exact (hc _ _ he _ hb).imp_right Or.inl
  | joined _ _ _ he hb _ => simpa using (hc _ _ he _ hb).imp_right (Or.inl (b := _ ∧ _))
  | translit => exact Or.inr (Or.inr ⟨rfl, rfl⟩)

theorem baseItems_nonEmoji {env : Env} {cache : Memo} {w : Str} (hclean : MemoClean cache) :
    ∀ b ∈ baseItems env cache w, b.variant ≠ .emoji := fun b hb => by
  rcases (mem_baseItems hb).kind hclean with h | h | ⟨h, _⟩ <;> simp [h]

/-! ### what the emoji / English stage adds: core items (wrapped) and raw items -/

/-- the emoji found by the name of the word, before wrapping -/
def nameItems (env : Env) (w : Str) : List Rank :=
  match env.emojiByName w with
  | some es => (es.zipIdx 1).map (fun (s, r) => Rank.emoji s r)
  | none => []

/-- all wrapped candidates of the phonetic method, before wrapping -/
def coreItems (env : Env) (cfg : Cfg) (cache : Memo) (term w : Str) : List Rank :=
  baseItems env cache w ++
    (if cfg.ansi then [] else match env.emoticon term with | some _ => [] | none => nameItems env w)

theorem mem_nameItems {env : Env} {w : Str} {c : Rank} :
    c ∈ nameItems env w ↔ ∃ es, env.emojiByName w = some es ∧ ∃ x ∈ es.zipIdx 1, Rank.emoji x.1 x.2 = c := by
  unfold nameItems
  cases env.emojiByName w with
  | none => simp
  | some es => simp only [Option.some.injEq, exists_eq_left']; exact List.mem_map

theorem mem_coreItems {env : Env} {cfg : Cfg} {cache : Memo} {term w : Str} {c : Rank} :
    c ∈ coreItems env cfg cache term w ↔
      c ∈ baseItems env cache w ∨ (cfg.ansi = false ∧ env.emoticon term = none ∧ c ∈ nameItems env w) := by
  unfold coreItems
  rw [List.mem_append]
  refine or_congr_right ?_
  cases cfg.ansi <;> cases env.emoticon term <;> simp

/-- the never-wrapped candidates: typed text (`Last term 1` with an emoticon, else `Last term 3`
    English) and the emoticon's emoji; `isPre` = "the typed text equals the leading punctuation",
    `collide` = "the typed text equals a wrapped candidate" — the two tests of the code -/
def rawItems (env : Env) (cfg : Cfg) (term : Str) (isPre collide : Bool) : List Rank :=
  if cfg.ansi then [] else
    match env.emoticon term with
    | some e => (if !isPre && !collide then [Rank.last term 1] else []) ++ [Rank.emoji e Gen.emojiDefaultRank]
    | none => if cfg.english && !isPre && !collide then [Rank.last term 3] else []

theorem rawItems_of_none {env : Env} {cfg : Cfg} {term : Str} (he : env.emoticon term = none) (a b : Bool) :
    rawItems env cfg term a b = if cfg.english && !a && !b then [Rank.last term 3] else [] := by
  unfold rawItems
  rw [he]
  cases h : cfg.ansi <;> simp [Cfg.english, h]

theorem mem_rawItems {env : Env} {cfg : Cfg} {term : Str} {a b : Bool} {r : Rank} :
    r ∈ rawItems env cfg term a b ↔ cfg.ansi = false ∧
      ((∃ e, env.emoticon term = some e ∧
          (r = .emoji e Gen.emojiDefaultRank ∨ (a = false ∧ b = false ∧ r = .last term 1))) ∨
       (env.emoticon term = none ∧ cfg.english = true ∧ a = false ∧ b = false ∧ r = .last term 3)) := by
  unfold rawItems
  cases cfg.ansi <;> cases env.emoticon term <;> simp [and_assoc, or_comm]

/-- the raw items the code adds when the parts of the typed text are `parts` -/
def rawsAt (env : Env) (cfg : Cfg) (cache : Memo) (term : Str) (parts : Parts) : List Rank :=
  rawItems env cfg term (term == parts.pre)
    ((coreItems env cfg cache term parts.word).any (fun r => parts.pre ++ r.text ++ parts.trail == term))

theorem pushChecked_map_wrap (C : List Rank) (p t term : Str) (r : Rank) (hr : r.text = term) :
    pushChecked (C.map (wrapR p t)) r =
      C.map (wrapR p t) ++ (if C.any (fun x => p ++ x.text ++ t == term) then [] else [r]) := by
  have : (C.map (wrapR p t)).any (fun x => x.sameText r) = C.any (fun x => p ++ x.text ++ t == term) := by
    rw [List.any_map]
    congr 1
    funext x
    simp [Rank.sameText, hr]
  unfold pushChecked
  rw [this]
  split <;> simp

/-- the right side is the expression of `emojiStage` -/
theorem map_wrapR_nameItems (env : Env) (w p t : Str) :
    (nameItems env w).map (wrapR p t) =
      match env.emojiByName w with
      | some es => (es.zipIdx 1).map (fun (s, r) => Rank.emoji (wrapText p t s) r)
      | none => [] := by
  unfold nameItems
  split
  · simp [wrapR, wrapText, Rank.setText, Rank.text, Function.comp_def]
  · rfl

namespace C18

/-- the emoji items built for a name: the listed emoji, wrapped, numbered 1, 2, 3, … -/
def emojiItems (parts : Parts) (es : List Str) : List Rank :=
  (es.zipIdx 1).map (fun p => Rank.emoji (wrapText parts.pre parts.trail p.1) p.2)

theorem emojiItems_text (parts : Parts) (es : List Str) :
    (emojiItems parts es).map Rank.text = es.map (wrapText parts.pre parts.trail) := by
  unfold emojiItems
  rw [List.map_map]
  have : (Rank.text ∘ fun p : Str × Nat => Rank.emoji (wrapText parts.pre parts.trail p.1) p.2) =
      (wrapText parts.pre parts.trail) ∘ Prod.fst := rfl
  rw [this, ← List.map_map, List.zipIdx_map_fst]

end C18

theorem map_wrapR_nameItems_eq {env : Env} {parts : Parts} {es : List Str} (hes : env.emojiByName parts.word = some es) :
    (nameItems env parts.word).map (wrapR parts.pre parts.trail) = C18.emojiItems parts es := by
  rw [map_wrapR_nameItems, hes]; rfl

/-! ### the emoji stage, by the three ways it ends; the list handed to the sort -/

theorem emojiStage_ansi (env : Env) {cfg : Cfg} (ha : cfg.ansi = true) (term : Str) (parts : Parts) (l : List Rank) :
    emojiStage env cfg term parts l = (l, false) := by
  simp [emojiStage, ha]

theorem emojiStage_emoticon {env : Env} {cfg : Cfg} {term e : Str} (ha : cfg.ansi = false)
    (he : env.emoticon term = some e) (parts : Parts) (l : List Rank) :
    emojiStage env cfg term parts l =
      ((if term != parts.pre then pushChecked l (Rank.last term 1) else l) ++ [Rank.emoji e Gen.emojiDefaultRank],
        true) := by
  simp [emojiStage, ha, he]

theorem emojiStage_no_emoticon {env : Env} {term : Str} (he : env.emoticon term = none) (cfg : Cfg) (parts : Parts)
    (l : List Rank) :
    emojiStage env cfg term parts l =
      (l ++ if cfg.ansi then [] else (nameItems env parts.word).map (wrapR parts.pre parts.trail), false) := by
  rw [map_wrapR_nameItems]
  unfold emojiStage
  rw [he]
  cases cfg.ansi <;> cases env.emojiByName parts.word <;> simp

/-- **the list handed to the sort** = wrapped core items ++ raw items -/
theorem addExtras_eq (env : Env) (cfg : Cfg) (cache : Memo) (term : Str) (parts : Parts) :
    addExtras env cfg term parts (dictList env cache parts) =
      (coreItems env cfg cache term parts.word).map (wrapR parts.pre parts.trail) ++
        rawsAt env cfg cache term parts := by
  rw [dictList_eq, rawsAt, addExtras, coreItems, rawItems]
  cases hansi : cfg.ansi with
  | true => simp [emojiStage_ansi env hansi, Cfg.english, hansi]
  | false =>
    cases he : env.emoticon term with
    | some e =>
      -- the typed text, unless it is the leading punctuation or the text of an item; then the emoticon's emoji
      simp only [emojiStage_emoticon hansi he, bne, pushChecked_map_wrap _ _ _ term (Rank.last term 1) rfl,
        Bool.false_eq_true, if_false, List.append_nil]
      generalize List.any _ _ = A
      cases term == parts.pre <;> cases A <;> simp
    | none =>
      -- the typed text of the English option, under the same two conditions
      simp only [emojiStage_no_emoticon he, hansi, Bool.false_eq_true, if_false]
      rw [← List.map_append]
      simp only [pushChecked_map_wrap _ _ _ term (Rank.last term 3) rfl]
      generalize List.any _ _ = A
      cases cfg.english <;> cases hp : term == parts.pre <;> cases A <;> simp [bne, hp]

/-! ### the candidate list: its stages by name, what is always in it, where its items come from -/

namespace C07

/-- the candidate list before the sort -/
def unsorted (env : Env) (cfg : Cfg) (cache : Memo) (term : Str) : List Rank :=
  addExtras env cfg term (preparedParts env cfg term) (dictList env cache (preparedParts env cfg term))

theorem suggestList_eq (env : Env) (cfg : Cfg) (cache : Memo) (term : Str) :
    suggestList env cfg cache term = sortStable (unsorted env cfg cache term) := rfl

/-- the list built before the raw English text is considered -/
def beforeEnglish (env : Env) (cfg : Cfg) (cache : Memo) (term : Str) : List Rank :=
  (emojiStage env cfg term (preparedParts env cfg term) (dictList env cache (preparedParts env cfg term))).1

end C07

theorem beforeEnglish_of_no_emoticon {env : Env} {cfg : Cfg} {cache : Memo} {term : Str}
    (he : env.emoticon term = none) :
    C07.beforeEnglish env cfg cache term =
      dictList env cache (preparedParts env cfg term) ++
        if cfg.ansi then [] else (nameItems env (preparedParts env cfg term).word).map
          (wrapR (preparedParts env cfg term).pre (preparedParts env cfg term).trail) := by
  rw [C07.beforeEnglish, emojiStage_no_emoticon he]

theorem beforeEnglish_eq (env : Env) (cfg : Cfg) (cache : Memo) (term : Str) (he : env.emoticon term = none) :
    C07.beforeEnglish env cfg cache term =
      (coreItems env cfg cache term (preparedParts env cfg term).word).map
        (wrapR (preparedParts env cfg term).pre (preparedParts env cfg term).trail) := by
  rw [beforeEnglish_of_no_emoticon he, dictList_eq, coreItems, he]
  cases cfg.ansi <;> simp

theorem wrapR_mem_suggestList {env : Env} {cfg : Cfg} {cache : Memo} {term : Str} {parts : Parts} {b : Rank}
    (h : b ∈ baseItems env cache parts.word) :
    wrapR parts.pre parts.trail b ∈ sortStable (addExtras env cfg term parts (dictList env cache parts)) := by
  rw [mem_sortStable, addExtras_eq]
  exact List.mem_append_left _ (List.mem_map_of_mem (List.mem_append_left _ h))

theorem BaseSrc.text_mem_suggestList {env : Env} {cfg : Cfg} {cache : Memo} {term : Str} {parts : Parts} {x : Rank}
    (hx : BaseSrc env cache parts.word x) :
    wrapText parts.pre parts.trail x.text ∈
      (sortStable (addExtras env cfg term parts (dictList env cache parts))).map Rank.text := by
  obtain ⟨y, hy, hyt⟩ := hx.exists_text
  exact List.mem_map.mpr ⟨_, wrapR_mem_suggestList hy, by rw [wrapR_text, hyt]; rfl⟩

/-- the transliteration of the word part, wrapped in the parts' punctuation, survives `push_checked`, the wrapping,
    the extra items and the sort: it is always a candidate text -/
theorem translit_mem_suggestList (env : Env) (cfg : Cfg) (cache : Memo) (term : Str) :
    wrapText (preparedParts env cfg term).pre (preparedParts env cfg term).trail
      (env.convert (preparedParts env cfg term).word) ∈ (suggestList env cfg cache term).map Rank.text :=
  BaseSrc.translit.text_mem_suggestList

/-- the phonetic list is never empty: the transliteration is always pushed -/
theorem suggestList_ne_nil (env : Env) (cfg : Cfg) (cache : Memo) (term : Str) :
    suggestList env cfg cache term ≠ [] :=
  fun h => List.ne_nil_of_mem (translit_mem_suggestList env cfg cache term) (by rw [h]; rfl)

theorem length_suggestList (env : Env) (cfg : Cfg) (cache : Memo) (term : Str) :
    (suggestList env cfg cache term).length =
      (coreItems env cfg cache term (preparedParts env cfg term).word).length +
        (rawsAt env cfg cache term (preparedParts env cfg term)).length := by
  rw [suggestList, length_sortStable, addExtras_eq, List.length_append, List.length_map]

/-- **where the phonetic candidates come from**: a property holds of every candidate as soon as it holds of the
    (wrapped) dictionary-stage items (`mem_baseItems` says what these are), of the wrapped emoji listed for the word
    as a name, of the emoticon's emoji and the typed text beside it, and of the raw English item — each under the
    condition under which the code adds it -/
theorem forall_mem_suggestList {env : Env} {cfg : Cfg} {cache : Memo} {term : Str} {parts : Parts} {Q : Rank → Prop}
    (hbase : ∀ b ∈ baseItems env cache parts.word, Q (wrapR parts.pre parts.trail b))
    (hname : cfg.ansi = false → env.emoticon term = none →
      ∀ es, env.emojiByName parts.word = some es → ∀ x ∈ es.zipIdx 1,
        Q (.emoji (parts.pre ++ x.1 ++ parts.trail) x.2))
    (hemo : cfg.ansi = false → ∀ e, env.emoticon term = some e →
      Q (.emoji e Gen.emojiDefaultRank) ∧ (term ≠ parts.pre → Q (.last term 1)))
    (heng : cfg.english = true → env.emoticon term = none → term ≠ parts.pre → Q (.last term 3)) :
    ∀ r ∈ sortStable (addExtras env cfg term parts (dictList env cache parts)), Q r := by
  intro r hr
  rw [mem_sortStable, addExtras_eq, rawsAt, List.mem_append] at hr
  rcases hr with hr | hr
  · obtain ⟨c, hc, rfl⟩ := List.mem_map.mp hr
    rcases mem_coreItems.mp hc with hc | ⟨ha, he, hc⟩
    · exact hbase c hc
    · obtain ⟨es, hes, x, hx, rfl⟩ := mem_nameItems.mp hc
      exact hname ha he es hes x hx
  · obtain ⟨ha, ⟨e, he, rfl | ⟨hp, _, rfl⟩⟩ | ⟨he, hen, hp, _, rfl⟩⟩ := mem_rawItems.mp hr
    · exact (hemo ha e he).1
    · exact (hemo ha e he).2 (ne_of_beq_false hp)
    · exact heng hen he (ne_of_beq_false hp)

/-- **two candidate lists over the same memo with the same core items** (same word part, emoji looked up alike)
    are, after the sort, position by position the same core item in the two wrappings, or raw items related by `R` —
    for any `R` that keeps class and number and relates the two raw lists item by item -/
theorem sort_addExtras_rel2 {env : Env} {cache : Memo} {cfg₁ cfg₂ : Cfg} {term₁ term₂ : Str} {P₁ P₂ : Parts}
    {R : Rank → Rank → Prop} (hR : ∀ a b, R a b → skel a = skel b)
    (hraw : Rel2 R (rawsAt env cfg₁ cache term₁ P₁) (rawsAt env cfg₂ cache term₂ P₂))
    (hcore : coreItems env cfg₁ cache term₁ P₁.word = coreItems env cfg₂ cache term₂ P₂.word) :
    Rel2 (fun a b => (∃ c, a = wrapR P₁.pre P₁.trail c ∧ b = wrapR P₂.pre P₂.trail c) ∨ R a b)
      (sortStable (addExtras env cfg₁ term₁ P₁ (dictList env cache P₁)))
      (sortStable (addExtras env cfg₂ term₂ P₂ (dictList env cache P₂))) := by
  apply sortStable_rel2
  · rintro a b (⟨c, rfl, rfl⟩ | h)
    · simp
    · exact hR a b h
  · rw [addExtras_eq, addExtras_eq, hcore]
    exact (Rel2.map_map _ _ _ (fun c _ => Or.inl ⟨c, rfl, rfl⟩)).append (hraw.mono (fun _ _ => Or.inr))

end Riti
