/-
Lemmas/Emoji — emoji candidates (C18, and the (class, number) order of C07): what the stable sort does to the
emoji (mutually `Equal`) and to the other items; the emoji of the phonetic candidate list, computed on its normal
form (`filter_emoji_unsorted`), and the other items (`filter_nonEmoji_suggestList`: the emoji reorder nothing); the
list as the code builds it (`unsorted_of_emoticon`, `unsorted_of_no_emoticon`); a text whose leading punctuation is
as long as the text is all punctuation.
-/
import RitiModel.Lemmas.SortSpec
import RitiModel.Lemmas.Candidates
namespace Riti
open Gen

/-- the test "is not an emoji item" -/
abbrev nonEmoji (r : Rank) : Bool := r.variant != .emoji

/-! ### the stable sort, the emoji and the other items -/

/-- the sort keeps the emoji items in their input order (all emoji are mutually `Equal`) -/
theorem sortStable_filter_emoji (l : List Rank) :
    (sortStable l).filter (fun r => r.variant == .emoji) = l.filter (fun r => r.variant == .emoji) := by
  apply sortStable_filter
  apply List.pairwise_of_forall_mem_list
  intro a _ b _ ha hb
  simp [cmp_eq_of_emoji (by simpa using hb) (by simpa using ha)]

/-- when the emoji of the input carry non-decreasing numbers in input order (what the pipeline
    produces), deleting the emoji from the sorted list gives the sorted list of the non-emoji
    items: the emoji never reorder anything else, although the comparator is not transitive.
    (What is left is ascending, `sortStable_fine`, and keeps its ties in input order: so it is THE stable sort of
    the non-emoji items, `eq_sortStable_of_sorted_stable`.) -/
theorem sortStable_filter_nonEmoji (l : List Rank) (hasc : EmojiAscending l) :
    (sortStable l).filter nonEmoji = sortStable (l.filter nonEmoji) := by
  apply eq_sortStable_of_sorted_stable
  · exact (sortStable_perm l).filter _
  · exact ((sortStable_fine l hasc).sublist List.filter_sublist).imp fun h =>
      (Rank.le_iff_ne_gt _ _).mp (le_of_keyLe h)
  · intro x hx
    have hxn : x.variant ≠ .emoji := by simpa [nonEmoji] using (List.mem_filter.mp hx).2
    rw [List.filter_filter, List.filter_filter]
    apply sortStable_filter
    apply List.pairwise_of_forall_mem_list
    intro a _ b _ ha hb
    simp only [Bool.and_eq_true, beq_iff_eq] at ha hb
    -- `a` and `b` are tied with `x`, which is no emoji: `a ≤ x ≤ b` in the transitive order
    have h1 : keyLe a x := (cmp_ne_gt_iff_keyLe (Or.inr hxn)).mp (by simp [ha.1])
    have h2 : keyLe x b := (cmp_ne_gt_iff_keyLe (Or.inl hxn)).mp (by simp [(cmp_eq_symm b x).mp hb.1])
    exact (cmp_ne_lt_iff_ne_gt b a).mpr ((Rank.le_iff_ne_gt a b).mp (le_of_keyLe (keyLe_trans h1 h2)))

/-- without ascending emoji numbers the emoji CAN reorder the other items (the comparator is not
    transitive: `Other 5 < Emoji 10 = Emoji 1 < Other 3`): with the two emoji the words stay in the
    order 5, 3; without them they are sorted 3, 5 -/
theorem sortStable_filter_nonEmoji_needs_ascending :
    let l := [Rank.other ['a'] 5, .emoji ['x'] 10, .emoji ['y'] 1, .other ['b'] 3]
    (sortStable l).filter nonEmoji = [.other ['a'] 5, .other ['b'] 3] ∧
      sortStable (l.filter nonEmoji) = [.other ['b'] 3, .other ['a'] 5] := by decide +kernel

/-! ### the emoji and the other items of the phonetic candidate list -/

theorem nameItems_emoji {env : Env} {w : Str} : ∀ r ∈ nameItems env w, r.variant = .emoji := by
  intro r hr
  obtain ⟨_, _, _, _, rfl⟩ := mem_nameItems.mp hr
  rfl

theorem filter_map_wrapR (q : Variant → Bool) (p t : Str) (l : List Rank) :
    (l.map (wrapR p t)).filter (fun r => q r.variant) = (l.filter (fun r => q r.variant)).map (wrapR p t) := by
  rw [List.filter_map]; simp [Function.comp_def]

theorem filter_emoji_rawItems (env : Env) (cfg : Cfg) (term : Str) (a b : Bool) :
    (rawItems env cfg term a b).filter (fun r => r.variant == .emoji) =
      if cfg.ansi then [] else (env.emoticon term).toList.map (Rank.emoji · emojiDefaultRank) := by
  unfold rawItems
  cases cfg.english <;> cases cfg.ansi <;> cases env.emoticon term <;> cases a <;> cases b <;> rfl

/-- **the emoji of the candidate list** (clean memo): the emoticon's emoji, else the wrapped emoji listed for the
    word as a name, in table order -/
theorem filter_emoji_unsorted {env : Env} {cfg : Cfg} {cache : Memo} {term : Str} {parts : Parts}
    (hclean : MemoClean cache) :
    (addExtras env cfg term parts (dictList env cache parts)).filter (fun r => r.variant == .emoji) =
      if cfg.ansi then [] else
        match env.emoticon term with
        | some e => [Rank.emoji e Gen.emojiDefaultRank]
        | none => (nameItems env parts.word).map (wrapR parts.pre parts.trail) := by
  have hb : (baseItems env cache parts.word).filter (fun r => r.variant == .emoji) = [] :=
    List.filter_eq_nil_iff.mpr fun b hb => by simpa using baseItems_nonEmoji hclean b hb
  have hn : (nameItems env parts.word).filter (fun r => r.variant == .emoji) = nameItems env parts.word :=
    List.filter_eq_self.mpr fun r hr => by simp [nameItems_emoji r hr]
  rw [addExtras_eq, List.filter_append, filter_map_wrapR (· == .emoji), coreItems, List.filter_append, hb, rawsAt,
    filter_emoji_rawItems]
  by_cases ha : cfg.ansi = true
  · simp [ha]
  · cases he : env.emoticon term <;> simp [ha, hn]

theorem zipIdx_pairwise_snd {α : Type} (l : List α) (k : Nat) :
    (l.zipIdx k).Pairwise (fun p q => p.2 ≤ q.2) := by
  have := List.pairwise_le_range' (s := k) (n := l.length)
  rwa [← List.zipIdx_map_snd k l, List.pairwise_map] at this

/-- the unsorted pipeline list has its emoji in ascending number (clean memo): there is one, or they are numbered
    1, 2, 3, … in table order -/
theorem unsorted_emojiAscending {env : Env} {cfg : Cfg} {cache : Memo} {term : Str} (hclean : MemoClean cache) :
    EmojiAscending (C07.unsorted env cfg cache term) := by
  have : ((C07.unsorted env cfg cache term).filter (fun r => r.variant == .emoji)).Pairwise
      (fun a b => a.num ≤ b.num) := by
    rw [C07.unsorted, filter_emoji_unsorted hclean]
    split
    · exact .nil
    · split
      · exact List.pairwise_singleton _ _
      · unfold nameItems
        split
        · simp only [List.pairwise_map, wrapR_num]
          exact zipIdx_pairwise_snd _ 1
        · exact .nil
  simpa [EmojiAscending, List.pairwise_filter] using this

/-- **deleting the emoji from the candidate list** (clean memo) leaves the sorted list of the other items: the
    emoji never reorder anything else -/
theorem filter_nonEmoji_suggestList {env : Env} {cfg : Cfg} {cache : Memo} {term : Str} (hclean : MemoClean cache) :
    (suggestList env cfg cache term).filter nonEmoji = sortStable ((C07.unsorted env cfg cache term).filter nonEmoji) :=
  sortStable_filter_nonEmoji _ (unsorted_emojiAscending hclean)

/-! ### the list handed to the sort, as the code builds it -/

theorem dictList_nonEmoji {env : Env} {cache : Memo} (hclean : MemoClean cache) (parts : Parts) :
    ∀ r ∈ dictList env cache parts, nonEmoji r = true := by
  rw [dictList_eq]
  intro r hr
  obtain ⟨b, hb, rfl⟩ := List.mem_map.mp hr
  simpa using baseItems_nonEmoji hclean b hb

/-- an emoticon matched (outside ANSI mode): the list so far (`l`: the dictionary stage), the typed text pushed as
    `Last _ 1` unless it is the leading punctuation, the emoticon's emoji; the raw English item is not added whatever
    the option says -/
theorem unsorted_of_emoticon {env : Env} {cfg : Cfg} {term e : Str} (hansi : cfg.ansi = false)
    (he : env.emoticon term = some e) (parts : Parts) (l : List Rank) :
    addExtras env cfg term parts l =
      (if term != parts.pre then pushChecked l (Rank.last term 1) else l) ++ [Rank.emoji e Gen.emojiDefaultRank] := by
  simp [addExtras, emojiStage_emoticon hansi he]

/-- no emoticon matched: the raw English text is pushed onto the list of the emoji stage
    (`beforeEnglish_of_no_emoticon`) -/
theorem unsorted_of_no_emoticon {env : Env} {cfg : Cfg} {cache : Memo} {term : Str} (he : env.emoticon term = none) :
    C07.unsorted env cfg cache term =
      if cfg.english && term != (preparedParts env cfg term).pre
        then pushChecked (C07.beforeEnglish env cfg cache term) (Rank.last term 3)
        else C07.beforeEnglish env cfg cache term := by
  simp [C07.unsorted, addExtras, C07.beforeEnglish, emojiStage_no_emoticon he]

/-! ### `split` on punctuation -/

theorem all_meta_of_takeWhile_length (t : Str) (h : t.length ≤ (t.takeWhile isMeta).length) :
    t.all isMeta = true := by
  rw [← (List.takeWhile_prefix isMeta).eq_of_length_le h]
  exact List.all_takeWhile

end Riti
