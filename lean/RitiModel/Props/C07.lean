/-
Props/C07 — phonetic candidates are ranked best-first by a fixed, explainable order.

A. The comparator (`impl Ord for Rank`, from the GENERATED arm table `Gen.cmpArm`).  It is total and antisymmetric but
   NOT transitive: two emoji compare `Equal` whatever their numbers, while an emoji against a dictionary word compares
   the numbers (`not_preorder_witness`).  It is a total preorder on a list in which every word number stands alike to
   all emoji numbers (`RanksSeparated`).
B. The stable sort of such a list is sorted and stable.
C. The six clauses about `suggestList`.  The class order needs no hypothesis (`c07_class_sorted`).  The order by number
   is proved under `RanksSeparated` from B, and again for every clean memo without it, from the (class, number) order
   `keyLe`, which the sort still achieves because the emoji enter the list in ascending number (`c07_fine_sorted`;
   `separation_can_fail` is why).  Where the code does not meet a clause literally the theorem is PARTIAL and a witness
   shows the failure (`c07_english_last_fails`, `c07_nodup_fails`, `c07_distance_wraps`).
`unsorted` (the list handed to the sort) and `beforeEnglish` (that list before the raw English text is considered) are
defined in Lemmas/Candidates, in this namespace, because the lemmas about the candidate list are stated with them.
-/
import RitiModel.Model.Phonetic
import RitiModel.Lemmas.Rank
import RitiModel.Lemmas.Phonetic
import RitiModel.Lemmas.Sort
import RitiModel.Lemmas.Candidates
import RitiModel.Lemmas.Emoji
namespace Riti.C07
open Riti Riti.Gen

/-! ## A. the comparator -/

/-- the class order of `impl Ord for Rank`: the auto-correct item is strictly below everything
    else, the `Last` items strictly above everything else and ordered by their number, dictionary
    words ordered by their number, emoji mutually equal, and an emoji against a dictionary word
    compares the two numbers.  (Read off the generated arms: flipping an arm breaks this.) -/
theorem class_order :
    (∀ a b : Rank, a.variant = .first → b.variant ≠ .first → a.cmp b = .lt ∧ b.cmp a = .gt) ∧
    (∀ a b : Rank, a.variant ≠ .last → b.variant = .last → a.cmp b = .lt ∧ b.cmp a = .gt) ∧
    (∀ s t, (Rank.first s).cmp (.first t) = .eq) ∧
    (∀ s t m n, (Rank.last s m).cmp (.last t n) = natCmp m n) ∧
    (∀ s t m n, (Rank.other s m).cmp (.other t n) = natCmp m n) ∧
    (∀ s t m n, (Rank.emoji s m).cmp (.emoji t n) = .eq) ∧
    (∀ s t e n, (Rank.emoji s e).cmp (.other t n) = natCmp e n) ∧
    (∀ s t e n, (Rank.other t n).cmp (.emoji s e) = natCmp n e) := by
  refine ⟨?_, ?_, fun _ _ => rfl, fun _ _ _ _ => rfl, fun _ _ _ _ => rfl, fun _ _ _ _ => rfl,
    fun _ _ _ _ => rfl, fun _ _ _ _ => rfl⟩
  · intro a b ha hb
    cases a <;> cases b <;> simp_all [Rank.cmp, Rank.variant, cmpArm]
  · intro a b ha hb
    cases a <;> cases b <;> simp_all [Rank.cmp, Rank.variant, cmpArm]

/-- the comparator is antisymmetric in the sense `Ord` requires: `a < b ⇔ b > a`, `a = b ⇔ b = a` -/
theorem cmp_antisymm (a b : Rank) :
    (a.cmp b = .lt ↔ b.cmp a = .gt) ∧ (a.cmp b = .eq ↔ b.cmp a = .eq) :=
  ⟨cmp_lt_iff_gt a b, cmp_eq_symm a b⟩

/-- any two candidates are comparable -/
theorem le_total (a b : Rank) : a.le b = true ∨ b.le a = true :=
  (keyLe_total a b).imp le_of_keyLe le_of_keyLe

/-- every dictionary rank number in the list is below all emoji rank numbers in it, or above all
    of them, or equal to all of them -/
def RanksSeparated (l : List Rank) : Prop :=
  ∀ s n, Rank.other s n ∈ l →
    (∀ t e, Rank.emoji t e ∈ l → n < e) ∨ (∀ t e, Rank.emoji t e ∈ l → e < n) ∨
      (∀ t e, Rank.emoji t e ∈ l → n = e)

/-- separation in terms of the kinds and numbers of the members: a decidable statement -/
theorem ranksSeparated_iff (l : List Rank) : RanksSeparated l ↔
    ∀ w ∈ l, w.variant = .other →
      (∀ e ∈ l, e.variant = .emoji → w.num < e.num) ∨ (∀ e ∈ l, e.variant = .emoji → e.num < w.num) ∨
        (∀ e ∈ l, e.variant = .emoji → w.num = e.num) := by
  have hemo : ∀ P : Nat → Prop, (∀ t e, Rank.emoji t e ∈ l → P e) ↔ ∀ r ∈ l, r.variant = .emoji → P r.num :=
    fun P => ⟨fun h r hr hv => by cases r <;> cases hv; exact h _ _ hr, fun h t e he => h _ he rfl⟩
  simp only [RanksSeparated, hemo]
  exact ⟨fun h w hw hv => by cases w <;> cases hv; exact h _ _ hw, fun h s n hw => h _ hw rfl⟩

instance (l : List Rank) : Decidable (RanksSeparated l) := decidable_of_iff _ (ranksSeparated_iff l).symm

/-- what separation buys: an item of a separated list that stands in (class, number) order to ONE emoji of the list
    is `≤` (resp. `≥`) ALL its emoji — a word because separation compares it with all of them alike -/
theorem le_emoji_alike {l : List Rank} (hsep : RanksSeparated l) {w e e' : Rank} (hw : w ∈ l) (he : e ∈ l)
    (he' : e' ∈ l) (hv : e.variant = .emoji) (hv' : e'.variant = .emoji) :
    (keyLe w e → w.le e' = true) ∧ (keyLe e w → e'.le w = true) := by
  cases e <;> cases hv <;> cases e' <;> cases hv' <;> cases w <;>
    simp [Rank.le_iff, keyLe, Rank.classKey, Rank.num, Rank.variant]
  rename_i t n u n' s m
  rcases hsep s m hw with h | h | h <;> have := h t n he <;> have := h u n' he' <;> omega

/-- on the members of a separated list "less or equal" is transitive — together with `cmp_refl`,
    `le_total` and `cmp_antisymm` the comparator is a total preorder there, so "the" stable sort is
    well defined (and `slice::sort` cannot meet an inconsistent order) -/
theorem le_trans_of_separated {l : List Rank} (hsep : RanksSeparated l) {a b c : Rank}
    (ha : a ∈ l) (hb : b ∈ l) (hc : c ∈ l) (hab : a.le b = true) (hbc : b.le c = true) :
    a.le c = true := by
  rw [Rank.le_iff] at hab hbc
  rcases hab with hab | ⟨hae, hbe⟩ <;> rcases hbc with hbc | ⟨hbe', hce⟩
  · exact le_of_keyLe (keyLe_trans hab hbc)
  · exact (le_emoji_alike hsep ha hb hc hbe' hce).1 hab
  · exact (le_emoji_alike hsep hc hb ha hbe hae).2 hbc
  · exact (Rank.le_iff a c).mpr (Or.inr ⟨hae, hce⟩)

/-- without separation the comparator is NOT a preorder: `Other 10 ≤ Emoji 10 ≤ Emoji 1` but
    `Other 10 > Emoji 1` (known finding: `Emoji`/`Emoji` is `Equal` whatever the numbers) -/
theorem not_preorder_witness :
    (Rank.other [] 10).le (.emoji [] 10) = true ∧ (Rank.emoji [] 10).le (.emoji [] 1) = true ∧
      (Rank.other [] 10).le (.emoji [] 1) = false := by decide +kernel

/-- … and `Equal` is not transitive either -/
theorem eq_not_transitive_witness :
    (Rank.other [] 10).cmp (.emoji [] 10) = .eq ∧ (Rank.emoji [] 10).cmp (.emoji [] 1) = .eq ∧
      (Rank.other [] 10).cmp (.emoji [] 1) = .gt := by decide +kernel

/-- when no `as u8` wrap-around happened (dictionary numbers are multiples of 10) and the
    emoji numbers are 1…9, the list is separated -/
theorem separated_of_nowrap (l : List Rank)
    (ho : ∀ s n, Rank.other s n ∈ l → n % 10 = 0)
    (he : ∀ s e, Rank.emoji s e ∈ l → 1 ≤ e ∧ e ≤ 9) : RanksSeparated l := by
  intro s n hn
  have h1 := ho s n hn
  by_cases h0 : n = 0
  · exact Or.inl (fun t e hm => by have := he t e hm; omega)
  · exact Or.inr (Or.inl (fun t e hm => by have := he t e hm; omega))

/-! ## B. the stable sort -/

theorem cmpTransOn_of_separated {l : List Rank} (h : RanksSeparated l) : CmpTransOn l :=
  fun a ha b hb c hc hab hbc => (Rank.le_iff_ne_gt a c).mp
    (le_trans_of_separated h ha hb hc ((Rank.le_iff_ne_gt a b).mpr hab) ((Rank.le_iff_ne_gt b c).mpr hbc))

/-- the sorted list is ascending: every item is `≤` every later one -/
theorem sortStable_sorted {l : List Rank} (hsep : RanksSeparated l) :
    (sortStable l).Pairwise (fun a b => a.le b = true) :=
  (sortStable_sorted_of_trans (cmpTransOn_of_separated hsep)).imp (Rank.le_iff_ne_gt _ _).mpr

/-- on a separated list the comparator is a total preorder and `Equal` is an equivalence: reflexive,
    total, transitive (on the members), `Equal` symmetric and transitive -/
theorem cmp_total_preorder {l : List Rank} (hsep : RanksSeparated l) :
    (∀ a : Rank, a.cmp a = .eq) ∧ (∀ a b : Rank, a.le b = true ∨ b.le a = true) ∧
    (∀ a ∈ l, ∀ b ∈ l, ∀ c ∈ l, a.le b = true → b.le c = true → a.le c = true) ∧
    (∀ a b : Rank, a.cmp b = .eq ↔ b.cmp a = .eq) ∧
    (∀ a ∈ l, ∀ b ∈ l, ∀ c ∈ l, a.cmp b = .eq → b.cmp c = .eq → a.cmp c = .eq) :=
  ⟨cmp_refl, le_total, fun _ ha _ hb _ hc => le_trans_of_separated hsep ha hb hc, cmp_eq_symm,
    fun _ ha _ hb _ hc => (cmpTransOn_of_separated hsep).eq_trans ha hb hc⟩

/-- stability: the items that compare `Equal` to `x` keep their input order (`x` from the list, or
    any `x` that keeps the list separated) -/
theorem sortStable_stable {l : List Rank} (x : Rank) (hsep : RanksSeparated (x :: l)) :
    (sortStable l).filter (fun y => y.cmp x == .eq) = l.filter (fun y => y.cmp x == .eq) :=
  sortStable_stable_of_trans x (cmpTransOn_of_separated hsep)

/-- stability for a reference item taken from the list itself -/
theorem sortStable_stable_mem {l : List Rank} (hsep : RanksSeparated l) (x : Rank) (hx : x ∈ l) :
    (sortStable l).filter (fun y => y.cmp x == .eq) = l.filter (fun y => y.cmp x == .eq) :=
  sortStable_stable_mem_of_trans (cmpTransOn_of_separated hsep) hx

/-- for a reference item that breaks the separation, "the class of `x`" is not a class and its
    members may be reordered: `Other 3`, `Emoji 4` are both `Equal` to `Emoji 3` but are swapped -/
theorem sortStable_stable_needs_separation :
    let l := [Rank.emoji ['a'] 4, Rank.other ['b'] 3]
    let x := Rank.emoji [] 3
    RanksSeparated l ∧
      (sortStable l).filter (fun y => y.cmp x == .eq) ≠ l.filter (fun y => y.cmp x == .eq) := by
  decide +kernel

/-- an item that nothing else is strictly below stays first -/
theorem sortStable_head (x : Rank) (l : List Rank) (h : ∀ y ∈ l, y.cmp x ≠ .lt) :
    sortStable (x :: l) = x :: sortStable l := sortStable_cons_min x l h

/-! ## C. the candidate list -/

/-- for EVERY input, memo and option vector the returned list is ascending in the coarse class
    (no separation hypothesis: the comparator refines the class order even where it is not a preorder) -/
theorem c07_class_sorted (env : Env) (cfg : Cfg) (cache : Memo) (term : Str) :
    (suggestList env cfg cache term).Pairwise (fun a b => keyLe a b ∨ (a.classKey = 1 ∧ b.classKey = 1)) :=
  sortStable_coarse _

/-- every dictionary word and every auto-correct item stands before the plain transliteration
    (`Last _ 2`) — indeed before every `Last` item, for EVERY input, memo and option vector -/
theorem c07_translit_after_dict (env : Env) (cfg : Cfg) (cache : Memo) (term : Str)
    (i j : Nat) (hi : i < (suggestList env cfg cache term).length) (hj : j < (suggestList env cfg cache term).length)
    (h1 : (suggestList env cfg cache term)[i].variant = .other ∨ (suggestList env cfg cache term)[i].variant = .first)
    (h2 : (suggestList env cfg cache term)[j].variant = .last) : i < j := by
  apply index_lt_of_pairwise (c07_class_sorted env cfg cache term) (fun a => Or.inl (keyLe_refl a)) hi hj
  generalize (suggestList env cfg cache term)[i] = a at h1
  generalize (suggestList env cfg cache term)[j] = b at h2
  cases a <;> cases b <;> simp [Rank.variant, keyLe, Rank.classKey] at h1 h2 ⊢

/-- the `Last` items stand in the order emoticon text (1), transliteration (2), raw English (3) -/
theorem c07_last_order (env : Env) (cfg : Cfg) (cache : Memo) (term : Str)
    (i j : Nat) (hi : i < (suggestList env cfg cache term).length) (hj : j < (suggestList env cfg cache term).length)
    (s t : Str) (m n : Nat) (h1 : (suggestList env cfg cache term)[i] = .last s m)
    (h2 : (suggestList env cfg cache term)[j] = .last t n) (hmn : m < n) : i < j := by
  apply index_lt_of_pairwise (c07_class_sorted env cfg cache term) (fun a => Or.inl (keyLe_refl a)) hi hj
  rw [h1, h2]
  simp [keyLe, Rank.classKey, Rank.num]
  omega

theorem unsorted_kinds {env : Env} {cfg : Cfg} {cache : Memo} {term : Str} (hclean : MemoClean cache)
    {r : Rank} (hr : r ∈ unsorted env cfg cache term) :
    r.variant = .first ∨ r.variant = .other ∨ (r.variant = .emoji ∧ 1 ≤ r.num) ∨
      (r.variant = .last ∧ r.num ≤ 3) := by
  refine forall_mem_suggestList (Q := fun r => r.variant = .first ∨ r.variant = .other ∨
    (r.variant = .emoji ∧ 1 ≤ r.num) ∨ (r.variant = .last ∧ r.num ≤ 3)) ?_ ?_ ?_ ?_ r (mem_sortStable.mpr hr)
  · intro b hb
    rcases (mem_baseItems hb).kind hclean with h | h | h <;> simp [h]
  · exact fun _ _ es _ x hx => by simp [Rank.variant, Rank.num, List.le_snd_of_mem_zipIdx hx]
  · exact fun _ e _ => ⟨by simp [Rank.variant, Rank.num, emojiDefaultRank], fun _ => by simp [Rank.variant, Rank.num]⟩
  · exact fun _ _ _ => by simp [Rank.variant, Rank.num]

/-- the dictionary words occur in non-decreasing stored rank number (on a separated list) -/
theorem c07_distance_monotone (env : Env) (cfg : Cfg) (cache : Memo) (term : Str)
    (hsep : RanksSeparated (unsorted env cfg cache term)) :
    (suggestList env cfg cache term).Pairwise
      (fun a b => a.variant = .other → b.variant = .other → a.num ≤ b.num) :=
  (sortStable_sorted hsep).imp fun hab ha hb => num_le_of_le (Or.inr ha) (Or.inr hb) hab

/-- index form of `c07_distance_monotone` -/
theorem c07_distance_monotone_idx (env : Env) (cfg : Cfg) (cache : Memo) (term : Str)
    (hsep : RanksSeparated (unsorted env cfg cache term))
    (i j : Nat) (hij : i < j) (hj : j < (suggestList env cfg cache term).length)
    (s t : Str) (m n : Nat) (h1 : (suggestList env cfg cache term)[i] = .other s m)
    (h2 : (suggestList env cfg cache term)[j] = .other t n) : m ≤ n := by
  have := List.pairwise_iff_getElem.mp (c07_distance_monotone env cfg cache term hsep) i j (by omega) hj hij
  rw [h1, h2] at this
  exact this rfl rfl

/-- the stored number of a dictionary hit is ten times its edit distance from the transliteration,
    as long as that fits a byte -/
theorem rank_is_distance (s b : Str) (h : editDistance b s * 10 < 256) :
    (Rank.newSuggestion s b).num = 10 * editDistance b s := num_newSuggestion s b h

/-- … and wraps around otherwise (known finding, `as u8`): distance 26 is stored as 4, i.e. ranked
    as if the word were closer than a distance-1 word -/
theorem rank_wraps :
    editDistance (List.replicate 26 'a') [] = 26 ∧
      (Rank.newSuggestion [] (List.replicate 26 'a')).num = 4 := by decide +kernel

/-- a suffix-built word carries the class and number of its base word: it "inherits the distance" -/
theorem suffix_inherits_rank {env : Env} {cache : Memo} {ks : Str × Str} {r : Rank}
    (hr : r ∈ suffixedAt env cache ks) :
    ∃ sfx e b, env.suffix ks.2 = some sfx ∧ alookup cache ks.1 = some e ∧ b ∈ e ∧
      joinChecked b.text sfx = some r.text ∧ r.variant = b.variant ∧ r.num = b.num := by
  obtain ⟨sfx, e, b, j, h1, h2, h3, h4, rfl⟩ := mem_suffixedAt.mp hr
  exact ⟨sfx, e, b, h1, h2, h3, by simpa using h4, by simp, by simp⟩

theorem not_lt_first (x y : Rank) (hx : x.variant = .first) : y.cmp x ≠ .lt := by
  cases x <;> cases y <;> simp [Rank.variant, Rank.cmp, cmpArm] at hx ⊢

/-- if the word part has an auto-correct entry (user list first, else the bundled one) and the memo
    holds the entry computed for the word, candidate 0 is the (wrapped) transliteration of the
    correction — whatever else is in the memo, whatever the options -/
theorem c07_autocorrect_first (env : Env) (cfg : Cfg) (cache : Memo) (term : Str) (ua : Store) (c : Str)
    (hmemo : alookup cache (preparedParts env cfg term).word =
      some (computeEntry env ua (preparedParts env cfg term).word))
    (hac : searchCorrected env ua (preparedParts env cfg term).word = some c) :
    (suggestList env cfg cache term).head?.map Rank.text =
      some (wrapText (preparedParts env cfg term).pre (preparedParts env cfg term).trail (env.convert c)) := by
  generalize hp : preparedParts env cfg term = parts at hmemo hac
  -- the suffix stage starts with the auto-correct item, and `push_checked` only appends
  obtain ⟨tl, h1⟩ : ∃ tl, addSuffix env cache parts.word = Rank.first (env.convert c) :: tl := by
    unfold addSuffix
    simp only [hmemo, computeEntry, hac, Option.getD_some]
    split <;> exact ⟨_, rfl⟩
  obtain ⟨t2, h2⟩ : [Rank.first (env.convert c)] <+: baseItems env cache parts.word := by
    rw [baseItems, h1]
    exact (foldl_pushChecked_prefix tl [.first (env.convert c)]).trans (pushChecked_prefix _ _)
  rw [suggestList, addExtras_eq, hp, coreItems, ← h2, List.singleton_append, List.cons_append, List.map_cons,
    List.cons_append, sortStable_head _ _ (fun y _ => not_lt_first _ y (wrapR_variant _ _ _))]
  simp [wrapText]; rfl

/-- the same for the list `suggest` returns when the word is looked up for the first time (the memo
    entry is then computed from the current auto-correct lists) -/
theorem c07_autocorrect_first_suggest (env : Env) (cfg : Cfg) (s : PState) (term : Str) (c : Str)
    (hnew : alookup s.cache (preparedParts env cfg term).word = none)
    (hac : searchCorrected env s.userAutocorrect (preparedParts env cfg term).word = some c) :
    (suggest env cfg s term).2.1.head?.map Rank.text =
      some (wrapText (preparedParts env cfg term).pre (preparedParts env cfg term).trail (env.convert c)) := by
  show (suggestList env cfg (memoFill env s.userAutocorrect s.cache (preparedParts env cfg term).word) term).head?.map
    Rank.text = _
  apply c07_autocorrect_first env cfg _ term s.userAutocorrect c _ hac
  simp [memoFill, hnew, AList.alookup_ainsert]

/-! ### distance order without the separation hypothesis -/

/-- for every input and option vector and every clean memo — NO separation hypothesis — the whole
    list is ascending in (class, number); in particular the dictionary words occur in
    non-decreasing stored number even when emoji numbers and word numbers interleave -/
theorem c07_fine_sorted (env : Env) (cfg : Cfg) (cache : Memo) (term : Str) (hclean : MemoClean cache) :
    (suggestList env cfg cache term).Pairwise keyLe :=
  sortStable_fine _ (unsorted_emojiAscending hclean)

/-- a dictionary word equal to the transliteration (distance 0) stands before every emoji — for
    every input and option vector and every clean memo (emoji numbers start at 1) -/
theorem c07_emoji_after_exact_match (env : Env) (cfg : Cfg) (cache : Memo) (term : Str)
    (hclean : MemoClean cache)
    (i j : Nat) (hi : i < (suggestList env cfg cache term).length) (hj : j < (suggestList env cfg cache term).length)
    (h1 : ∃ s, (suggestList env cfg cache term)[i] = .other s 0)
    (h2 : (suggestList env cfg cache term)[j].variant = .emoji) : i < j := by
  obtain ⟨s, h1⟩ := h1
  apply index_lt_of_pairwise (c07_fine_sorted env cfg cache term hclean) keyLe_refl hi hj
  have hk := unsorted_kinds hclean (mem_sortStable.mp (List.getElem_mem hj))
  rw [h1]
  generalize (suggestList env cfg cache term)[j] = b at h2 hk
  cases b <;> simp [Rank.variant, Rank.num, keyLe, Rank.classKey] at h2 hk ⊢
  omega

/-- without the clean-memo hypothesis an `Emoji _ 0` smuggled into the memo would tie with an exact match:
    the comparator itself only gives `Other _ 0 < Emoji _ e` for `e ≥ 1` -/
theorem exact_vs_emoji (s t : Str) (e : Nat) :
    (Rank.other s 0).cmp (.emoji t e) = (if e = 0 then .eq else .lt) := by
  simp only [Rank.cmp, Rank.variant, Rank.num, cmpArm, natCmp]
  by_cases h : e = 0
  · simp [h]
  · have : 0 < e := by omega
    simp [h, this]

/-- `c07_distance_monotone` for clean memos without `RanksSeparated` -/
theorem c07_distance_monotone_clean (env : Env) (cfg : Cfg) (cache : Memo) (term : Str) (hclean : MemoClean cache) :
    (suggestList env cfg cache term).Pairwise
      (fun a b => a.variant = .other → b.variant = .other → a.num ≤ b.num) :=
  (c07_fine_sorted env cfg cache term hclean).imp fun hab ha hb =>
    num_le_of_le (Or.inr ha) (Or.inr hb) (le_of_keyLe hab)

/-! ### the raw English text -/

theorem unsorted_english {env : Env} {cfg : Cfg} {cache : Memo} {term : Str}
    (heng : cfg.english = true) (hemo : env.emoticon term = none)
    (hne : term ≠ (preparedParts env cfg term).pre) :
    unsorted env cfg cache term = pushChecked (beforeEnglish env cfg cache term) (.last term 3) := by
  rw [unsorted_of_no_emoticon hemo, if_pos (by simp [heng, hne])]

theorem not_lt_english (term : Str) (y : Rank)
    (h : y.variant = .first ∨ y.variant = .other ∨ (y.variant = .emoji ∧ 1 ≤ y.num) ∨
      (y.variant = .last ∧ y.num ≤ 3)) : (Rank.last term 3).cmp y ≠ .lt := by
  cases y <;> simp [Rank.variant, Rank.num, Rank.cmp, cmpArm] at h ⊢
  omega

/-- English option on, no emoticon matched, text not pure punctuation.  Either the typed text is not
    yet the text of a candidate, and then `Last term 3` is appended and ends up LAST (clean memo);
    or `push_checked` found a candidate with that text (e.g. the transliteration left the text
    unchanged), and then nothing is added: the list is the sort of the earlier list, which contains
    the typed text — not necessarily at the end (`c07_english_last_fails`). -/
theorem c07_english_last (env : Env) (cfg : Cfg) (cache : Memo) (term : Str)
    (hclean : MemoClean cache) (heng : cfg.english = true) (hemo : env.emoticon term = none)
    (hne : term ≠ (preparedParts env cfg term).pre) :
    (term ∉ (beforeEnglish env cfg cache term).map Rank.text ∧
      suggestList env cfg cache term = sortStable (beforeEnglish env cfg cache term) ++ [.last term 3]) ∨
    (term ∈ (beforeEnglish env cfg cache term).map Rank.text ∧
      suggestList env cfg cache term = sortStable (beforeEnglish env cfg cache term)) := by
  have hu := unsorted_english (cache := cache) heng hemo hne
  rw [suggestList_eq, hu, pushChecked]
  by_cases hmem : term ∈ (beforeEnglish env cfg cache term).map Rank.text
  · exact Or.inr ⟨hmem, by rw [if_pos (text_mem_of_any.mpr hmem)]⟩
  · refine Or.inl ⟨hmem, ?_⟩
    rw [if_neg fun h => hmem (text_mem_of_any.mp h)]
    -- nothing the pipeline builds ranks above `Last _ 3`
    exact sortStable_append_max _ _ fun y hy =>
      not_lt_english term y (unsorted_kinds hclean (hu ▸ mem_pushChecked_of_mem hy))

/-- the restriction under which the property's wording holds literally: the typed text is not
    already a candidate text (excluded: texts the transliteration leaves unchanged, where
    `push_checked` suppresses the raw item).  Then the last candidate IS the raw text. -/
theorem c07_english_last_partial (env : Env) (cfg : Cfg) (cache : Memo) (term : Str)
    (hclean : MemoClean cache) (heng : cfg.english = true) (hemo : env.emoticon term = none)
    (hne : term ≠ (preparedParts env cfg term).pre)
    (hfresh : term ∉ (beforeEnglish env cfg cache term).map Rank.text) :
    (suggestList env cfg cache term).getLast? = some (.last term 3) := by
  rcases c07_english_last env cfg cache term hclean heng hemo hne with ⟨_, h⟩ | ⟨h, _⟩
  · rw [h]; simp
  · exact absurd h hfresh

/-- in both cases the typed text is one of the candidates -/
theorem c07_english_candidate (env : Env) (cfg : Cfg) (cache : Memo) (term : Str)
    (heng : cfg.english = true) (hemo : env.emoticon term = none)
    (hne : term ≠ (preparedParts env cfg term).pre) :
    term ∈ (suggestList env cfg cache term).map Rank.text := by
  obtain ⟨x, hx, hxt⟩ := exists_text_pushChecked (beforeEnglish env cfg cache term) (.last term 3)
  rw [← unsorted_english (cache := cache) heng hemo hne] at hx
  exact List.mem_map.mpr ⟨x, mem_sortStable.mpr hx, hxt⟩

/-! ### no text twice -/

theorem nodup_wrapAll (parts : Parts) (l : List Rank) (h : (l.map Rank.text).Nodup) :
    ((wrapAll parts l).map Rank.text).Nodup := by
  rw [wrapAll_eq, List.nodup_iff_pairwise_ne, List.pairwise_map, List.pairwise_map] at *
  exact h.imp fun hab he => hab (by simpa using he)

/-- `suggestion_with_dict` never yields a text twice (every push is a `push_checked`) -/
theorem nodup_dictList (env : Env) (cache : Memo) (parts : Parts) :
    ((dictList env cache parts).map Rank.text).Nodup := by
  unfold dictList
  exact nodup_wrapAll _ _ (nodup_pushChecked _ (nodup_foldl_pushChecked _ [] (by simp)))

/-- the emoji appended (without a duplicate check) are new: the emoticon's emoji is not a text of
    the dictionary stage nor the typed text itself; the emoji found by name are pairwise distinct
    and, wrapped, not texts of the dictionary stage -/
def EmojiFresh (env : Env) (cfg : Cfg) (term : Str) (parts : Parts) (D : List Rank) : Prop :=
  cfg.ansi = false →
    (∀ e, env.emoticon term = some e → e ∉ D.map Rank.text ∧ (term ≠ parts.pre → e ≠ term)) ∧
    (env.emoticon term = none → ∀ es, env.emojiByName parts.word = some es →
      es.Nodup ∧ ∀ s ∈ es, wrapText parts.pre parts.trail s ∉ D.map Rank.text)

-- the same proposition with its quantifiers bounded by membership in the `Option`s, which instance search decides
instance (env : Env) (cfg : Cfg) (term : Str) (parts : Parts) (D : List Rank) :
    Decidable (EmojiFresh env cfg term parts D) :=
  inferInstanceAs (Decidable (cfg.ansi = false →
    (∀ e ∈ env.emoticon term, e ∉ D.map Rank.text ∧ (term ≠ parts.pre → e ≠ term)) ∧
    (env.emoticon term = none → ∀ es ∈ env.emojiByName parts.word,
      es.Nodup ∧ ∀ s ∈ es, wrapText parts.pre parts.trail s ∉ D.map Rank.text)))

theorem nodup_emojiStage {env : Env} {cfg : Cfg} {term : Str} {parts : Parts} {D : List Rank}
    (hD : (D.map Rank.text).Nodup) (hf : EmojiFresh env cfg term parts D) :
    (((emojiStage env cfg term parts D).1).map Rank.text).Nodup := by
  cases hansi : cfg.ansi with
  | true => rw [emojiStage_ansi env hansi]; exact hD
  | false =>
    obtain ⟨hf1, hf2⟩ := hf hansi
    cases he : env.emoticon term with
    | some e =>
      obtain ⟨he1, he2⟩ := hf1 e he
      rw [emojiStage_emoticon hansi he]
      by_cases hne : term = parts.pre
      · rw [if_neg (by simp [hne])]
        exact nodup_text_concat hD he1
      · rw [if_pos (by simp [hne])]
        refine nodup_text_concat (nodup_pushChecked _ hD) fun hmem => ?_
        obtain ⟨x, hx, hxe⟩ := List.mem_map.mp hmem
        rcases mem_pushChecked hx with h | rfl
        · exact he1 (List.mem_map.mpr ⟨x, h, hxe⟩)
        · exact he2 hne hxe.symm
    | none =>
      rw [emojiStage_no_emoticon he, hansi]
      cases hes : env.emojiByName parts.word with
      | none => simpa [nameItems, hes] using hD
      | some es =>
        obtain ⟨hn, hfr⟩ := hf2 he es hes
        rw [if_neg (by simp), map_wrapR_nameItems_eq hes, List.map_append, C18.emojiItems_text, List.nodup_append]
        refine ⟨hD, ?_, fun a ha b hb hab => ?_⟩
        · exact hn.map _ fun _ _ hab h => hab (by simpa [wrapText] using h)
        · obtain ⟨s, hs, rfl⟩ := List.mem_map.mp hb
          exact hfr s hs (hab ▸ ha)

/-- no candidate text occurs twice — PARTIAL: under `EmojiFresh` (the emoji are appended without
    `push_checked`, so an emoji equal to another candidate, or listed twice, is shown twice:
    `c07_nodup_fails`) -/
theorem c07_nodup_partial (env : Env) (cfg : Cfg) (cache : Memo) (term : Str)
    (hf : EmojiFresh env cfg term (preparedParts env cfg term) (dictList env cache (preparedParts env cfg term))) :
    ((suggestList env cfg cache term).map Rank.text).Nodup := by
  have hE := nodup_emojiStage (nodup_dictList env cache _) hf
  rw [suggestList_eq, ((sortStable_perm _).map Rank.text).nodup_iff]
  unfold unsorted addExtras
  simp only
  split
  · exact nodup_pushChecked _ hE
  · exact hE

/-- with ANSI output (no emoji at all) the list is duplicate-free unconditionally -/
theorem c07_nodup_ansi (env : Env) (cfg : Cfg) (cache : Memo) (term : Str) (h : cfg.ansi = true) :
    ((suggestList env cfg cache term).map Rank.text).Nodup :=
  c07_nodup_partial env cfg cache term (fun h' => by rw [h] at h'; cases h')

/-! ### witnesses: non-vacuity, and the negations of the full-strength statements -/

/-- a toy transliteration: `k ↦ ক`, `m ↦ ম`, everything else unchanged -/
def wConv (s : Str) : Str := s.map (fun c => if c == 'k' then 'ক' else if c == 'm' then 'ম' else c)

/-- a small world: `k` has an auto-correct entry, two dictionary words (one an exact match) and an
    emoji; `m` has one dictionary word; `a` is left unchanged by the transliteration and has the
    dictionary words `a`, `b`; `e` names an emoji whose text is `e` -/
def wEnv : Env :=
  { convert := wConv
    dictPhonetic := fun w =>
      if w == ['k'] then some [['ক', 'ি'], ['ক']]
      else if w == ['m'] then some [['ম', 'া']]
      else if w == ['a'] then some [['a'], ['b']]
      else some []
    suffix := fun _ => none
    autocorrect := fun w => if w == ['k'] then some ['k', 'k'] else none
    emoticon := fun _ => none
    emojiByName := fun w => if w == ['k'] then some [['☺']] else if w == ['e'] then some [['e']] else none
    emojiBengali := fun _ => none, bijoy := fun s => .ok s, fixedTable := fun _ => [] }

/-- English option on -/
def wCfg : Cfg := { includeEnglish := true }

/-- the memo after the engine looked the word up, starting from the empty memo -/
def wMemo (w : Str) : Memo := memoFill wEnv [] [] w

/-- the witness memo is clean, being filled from the empty memo -/
theorem wMemo_clean (w : Str) : MemoClean (wMemo w) := memoClean_fill _ _ _ _ memoClean_nil

/-- non-vacuity: one list showing all six clauses at work — auto-correct item, exact match, emoji,
    farther word, raw English text (the transliteration `ক` is the exact match, so not repeated) -/
example : suggestList wEnv wCfg (wMemo ['k']) ['k'] =
    [.first ['ক', 'ক'], .other ['ক'] 0, .emoji ['☺'] 1, .other ['ক', 'ি'] 10, .last ['k'] 3] := by decide +kernel

/-- non-vacuity: dictionary word, transliteration, raw English text -/
example : suggestList wEnv wCfg (wMemo ['m']) ['m'] =
    [.other ['ম', 'া'] 10, .last ['ম'] 2, .last ['m'] 3] := by decide +kernel

/-- non-vacuity of `c07_autocorrect_first`: its two hypotheses hold for the word `k` -/
example : alookup (wMemo ['k']) (preparedParts wEnv wCfg ['k']).word =
      some (computeEntry wEnv [] (preparedParts wEnv wCfg ['k']).word) ∧
    searchCorrected wEnv [] (preparedParts wEnv wCfg ['k']).word = some ['k', 'k'] := by decide +kernel

/-- non-vacuity of `c07_distance_monotone`: the unsorted list for `k` is separated -/
example : RanksSeparated (unsorted wEnv wCfg (wMemo ['k']) ['k']) := by decide +kernel

/-- non-vacuity of `c07_english_last_partial`: its hypotheses hold for the word `m` -/
example : wCfg.english = true ∧ wEnv.emoticon ['m'] = none ∧ ['m'] ≠ (preparedParts wEnv wCfg ['m']).pre ∧
    ['m'] ∉ (beforeEnglish wEnv wCfg (wMemo ['m']) ['m']).map Rank.text := by decide +kernel

/-- non-vacuity of `c07_nodup_partial`: `EmojiFresh` holds for the word `k` (which has an emoji) -/
example : EmojiFresh wEnv wCfg ['k'] (preparedParts wEnv wCfg ['k'])
    (dictList wEnv (wMemo ['k']) (preparedParts wEnv wCfg ['k'])) := by decide +kernel

/-- the full-strength "raw English text is last" FAILS when the transliteration leaves the typed
    text unchanged: for `a` the candidates are `a` (distance 0) and `b`; `push_checked` finds `a`
    present, adds nothing, and the last candidate is `b` -/
theorem c07_english_last_fails :
    wCfg.english = true ∧ wEnv.emoticon ['a'] = none ∧ ['a'] ≠ (preparedParts wEnv wCfg ['a']).pre ∧
      (suggestList wEnv wCfg (wMemo ['a']) ['a']).getLast?.map Rank.text = some ['b'] := by decide +kernel

/-- the full-strength "no text twice" FAILS: an emoji whose text equals the transliteration is
    appended unchecked (here the word `e` names the emoji `e`) -/
theorem c07_nodup_fails :
    ¬ ((suggestList wEnv wCfg (wMemo ['e']) ['e']).map Rank.text).Nodup := by decide +kernel

/-- a world for the wrap-around: the transliteration is the typed text; the word `o`×26 has a
    dictionary neighbour at distance 1 and one at distance 26 -/
def wrapEnv : Env :=
  { wEnv with
    convert := id
    dictPhonetic := fun _ => some [List.replicate 25 'o' ++ ['x'], List.replicate 26 'z'] }

/-- "non-decreasing EDIT DISTANCE" FAILS in the pipeline (known finding, `as u8`): the distance-26
    word (stored 260 mod 256 = 4) is shown before the distance-1 word (stored 10).  Only the stored
    numbers are monotone (`c07_distance_monotone`); they are the distances when nothing wraps
    (`rank_is_distance`). -/
theorem c07_distance_wraps :
    let t := List.replicate 26 'o'
    let L := suggestList wrapEnv {} (memoFill wrapEnv [] [] t) t
    L.map (fun r => (r.num, editDistance t r.text)) = [(4, 26), (10, 1), (2, 0)] := by decide +kernel

/-- a world where the word `m` has a dictionary word at distance 1 and ten emoji -/
def manyEnv : Env :=
  { wEnv with
    dictPhonetic := fun _ => some [['ম', 'া']]
    emojiByName := fun _ => some ((List.range 10).map (fun i => [Char.ofNat (48 + i)])) }

/-- `RanksSeparated` can FAIL in the pipeline (ten emoji numbered 1…10 and a word numbered 10) — the
    reason `c07_distance_monotone_clean` / `c07_fine_sorted` are proved without it -/
theorem separation_can_fail :
    ¬ RanksSeparated (unsorted manyEnv {} (memoFill manyEnv [] [] ['m']) ['m']) := by
  decide +kernel

/-- … and the list is still in (class, number) order: nine emoji, the word, the tenth emoji, the transliteration -/
example : (suggestList manyEnv {} (memoFill manyEnv [] [] ['m']) ['m']).map (fun r => (r.variant, r.num)) =
    [(.emoji, 1), (.emoji, 2), (.emoji, 3), (.emoji, 4), (.emoji, 5), (.emoji, 6), (.emoji, 7), (.emoji, 8),
     (.emoji, 9), (.other, 10), (.emoji, 10), (.last, 2)] := by decide +kernel

end Riti.C07
