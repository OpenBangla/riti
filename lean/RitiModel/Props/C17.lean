/-
Props/C17 — smart quotes only curl the quotes around a word.
Turning the option on replaces straight quotes in the punctuation before a non-empty word by
opening curly quotes and those after it by closing curly quotes, in every candidate that is wrapped
in that punctuation; nothing else changes (same length, order, ranks), except where the raw typed
text collides with a wrapped candidate on one side only (`c17_lists_fails`, `c17_selection_differs`).

What is said about the phonetic list is read off ONE statement, `c17_rel_partial`: the two sorted lists are related
position by position (the sort does not look at texts).  Its side condition `RawSame` is exact (`c17_length_iff`).
The fixed method needs no side condition (`c17_fixed_cands`).
-/
import RitiModel.Lemmas.Quotes
import RitiModel.Lemmas.Keys
import RitiModel.Lemmas.FixedSuggest
import RitiModel.Lemmas.PhoneticStep
import RitiModel.Model.Okkhor
namespace Riti.C17
open Riti

/-! ## 1. the quoter -/

/-- `smart_quoter` leaves a text without word part alone; otherwise it maps `openQuote` over the
    leading and `closeQuote` over the trailing punctuation and never touches the word -/
theorem quoter_spec (p w r : Str) :
    smartQuoter ⟨p, w, r⟩ = if w = [] then ⟨p, w, r⟩ else ⟨p.map openQuote, w, r.map closeQuote⟩ :=
  smartQuoter_mk p w r

/-- `openQuote` changes exactly the two straight quotes, into the opening curly ones -/
theorem openQuote_spec (c : Char) :
    openQuote c = if c = '\'' then '‘' else if c = '"' then '“' else c := by
  simp [openQuote]

/-- `closeQuote` changes exactly the two straight quotes, into the closing curly ones -/
theorem closeQuote_spec (c : Char) :
    closeQuote c = if c = '\'' then '’' else if c = '"' then '”' else c := by
  simp [closeQuote]

/-- mapping curly quotes back undoes the opening-quote substitution on text without curly quotes -/
theorem unquote_left_inverse {p : Str} (h : NoCurly p) : uncurl (p.map openQuote) = p :=
  uncurl_map_openQuote h

/-- … and the closing-quote substitution -/
theorem unquote_left_inverse_close {p : Str} (h : NoCurly p) : uncurl (p.map closeQuote) = p :=
  uncurl_map_closeQuote h

/-- the word part is never changed by the quoter -/
theorem quoter_word_unchanged (p : Parts) : (smartQuoter p).word = p.word := smartQuoter_word p

/-- the quoter keeps the lengths of the three parts (it substitutes character by character) -/
theorem quoter_lengths (p : Parts) :
    (smartQuoter p).pre.length = p.pre.length ∧ (smartQuoter p).trail.length = p.trail.length :=
  smartQuoter_length p

/-! ## 2. configurations with the option on / off; punctuation-only text -/

/-- the configuration with smart quotes switched on -/
abbrev on (cfg : Cfg) : Cfg := { cfg with smartQuote := true }
/-- the configuration with smart quotes switched off -/
abbrev off (cfg : Cfg) : Cfg := { cfg with smartQuote := false }

/-- transliterated leading punctuation of the typed text -/
def lead (env : Env) (term : Str) : Str := env.convert (split term false).pre
/-- transliterated trailing punctuation of the typed text -/
def tail (env : Env) (term : Str) : Str := env.convert (split term false).trail
/-- word part of the typed text -/
def word (term : Str) : Str := (split term false).word

theorem preparedParts_off (env : Env) (cfg : Cfg) (term : Str) :
    preparedParts env (off cfg) term = ⟨lead env term, word term, tail env term⟩ := rfl

theorem preparedParts_on (env : Env) (cfg : Cfg) {term : Str} (hw : (split term false).word ≠ []) :
    preparedParts env (on cfg) term = ⟨(lead env term).map openQuote, word term, (tail env term).map closeQuote⟩ := by
  rw [preparedParts, if_pos rfl, quoter_spec, if_neg hw]
  rfl

/-- the option only enters the candidate list through the prepared parts -/
theorem addExtras_on_off (env : Env) (cfg : Cfg) (term : Str) (parts : Parts) (l : List Rank) :
    addExtras env (on cfg) term parts l = addExtras env (off cfg) term parts l := rfl

/-- text that is only punctuation: the prepared parts do not depend on the option -/
theorem c17_punct_only (env : Env) (cfg : Cfg) (term : Str) (h : (split term false).word = []) :
    preparedParts env (on cfg) term = preparedParts env (off cfg) term := by
  rw [preparedParts_off, preparedParts, if_pos rfl]
  exact smartQuoter_of_word_nil h

/-- text that is only punctuation: the candidate list is identical with the option on and off -/
theorem c17_punct_only_list (env : Env) (cfg : Cfg) (cache : Memo) (term : Str)
    (h : (split term false).word = []) :
    suggestList env (on cfg) cache term = suggestList env (off cfg) cache term := by
  simp only [suggestList, c17_punct_only env cfg term h, addExtras_on_off]

/-- text that is only punctuation: the whole result of `suggest` (new state, list, preselection)
    is identical with the option on and off -/
theorem c17_punct_only_suggest (env : Env) (cfg : Cfg) (s : PState) (term : Str)
    (h : (split term false).word = []) :
    suggest env (on cfg) s term = suggest env (off cfg) s term := by
  simp only [suggest, c17_punct_only env cfg term h, c17_punct_only_list env cfg _ term h]

/-- fixed method, punctuation only: the parts, and so the candidates, do not depend on the option -/
theorem c17_fixed_punct_only_cands (env : Env) (cfg : Cfg) (s : FState) (h : (split s.buffer true).word = []) :
    fixedCands env (on cfg) s = fixedCands env (off cfg) s := by
  have hp : fixedParts (on cfg) s.buffer = fixedParts (off cfg) s.buffer := by
    simp [fixedParts, smartQuoter_of_word_nil h]
  simp only [fixedCands, hp]
  rfl

/-! ## 3. the phonetic candidate list, word part non-empty -/

/-- the raw (never wrapped) items the code adds when the punctuation around the word is `p … t`:
    it depends on `p`, `t` only through the two tests "typed text = `p`" and "typed text = some
    wrapped candidate" -/
def rawsFor (env : Env) (cfg : Cfg) (cache : Memo) (term p t : Str) : List Rank :=
  rawItems env cfg term (term == p)
    ((coreItems env cfg cache term (word term)).any (fun r => p ++ r.text ++ t == term))

/-- EXACT side condition: the raw typed text / emoticon items added with curled and with straight
    punctuation are the same (i.e. the raw-text tests that matter come out the same) -/
def RawSame (env : Env) (cfg : Cfg) (cache : Memo) (term : Str) : Prop :=
  rawsFor env cfg cache term ((lead env term).map openQuote) ((tail env term).map closeQuote) =
    rawsFor env cfg cache term (lead env term) (tail env term)

instance (env : Env) (cfg : Cfg) (cache : Memo) (term : Str) : Decidable (RawSame env cfg cache term) := by
  unfold RawSame; infer_instance

/-- readable sufficient condition: both tests of the code come out the same with curled and with
    straight punctuation -/
structure SameTests (env : Env) (cfg : Cfg) (cache : Memo) (term : Str) : Prop where
  /-- the typed text equals the curled leading punctuation iff it equals the straight one -/
  pre : term = (lead env term).map openQuote ↔ term = lead env term
  /-- the typed text equals some candidate in curled punctuation iff it equals some candidate in
      straight punctuation -/
  collide :
    (∃ c ∈ coreItems env cfg cache term (word term),
        (lead env term).map openQuote ++ c.text ++ (tail env term).map closeQuote = term) ↔
    (∃ c ∈ coreItems env cfg cache term (word term), lead env term ++ c.text ++ tail env term = term)

/-- if both tests of the code come out the same, the raw items are the same -/
theorem rawSame_of_sameTests {env : Env} {cfg : Cfg} {cache : Memo} {term : Str}
    (h : SameTests env cfg cache term) : RawSame env cfg cache term := by
  unfold RawSame rawsFor
  refine congr (congrArg (rawItems env cfg term) ?_) ?_ <;> rw [Bool.eq_iff_iff]
  · simpa using h.pre
  · simpa [List.any_eq_true] using h.collide

/-- no straight quote in the punctuation: curling changes nothing at all -/
theorem map_openQuote_of_no_straight {p : Str} (h : ∀ c ∈ p, c ≠ '\'' ∧ c ≠ '"') : p.map openQuote = p :=
  map_eq_self fun c hc => by simp [openQuote, (h c hc).1, (h c hc).2]

/-- … and likewise for the closing quotes -/
theorem map_closeQuote_of_no_straight {p : Str} (h : ∀ c ∈ p, c ≠ '\'' ∧ c ≠ '"') : p.map closeQuote = p :=
  map_eq_self fun c hc => by simp [closeQuote, (h c hc).1, (h c hc).2]

/-- the side condition holds whenever the typed text is neither the (curled or straight) leading
    punctuation nor a candidate wrapped in (curled or straight) punctuation — e.g. whenever every
    candidate contains a non-ASCII character, the typed text being ASCII -/
theorem sameTests_of_fresh {env : Env} {cfg : Cfg} {cache : Memo} {term : Str}
    (h1 : term ≠ lead env term) (h2 : term ≠ (lead env term).map openQuote)
    (h3 : ∀ c ∈ coreItems env cfg cache term (word term), lead env term ++ c.text ++ tail env term ≠ term)
    (h4 : ∀ c ∈ coreItems env cfg cache term (word term),
      (lead env term).map openQuote ++ c.text ++ (tail env term).map closeQuote ≠ term) :
    SameTests env cfg cache term :=
  ⟨⟨fun h => absurd h h2, fun h => absurd h h1⟩,
   ⟨fun ⟨c, hc, h⟩ => absurd h (h4 c hc), fun ⟨c, hc, h⟩ => absurd h (h3 c hc)⟩⟩

/-- is this item the raw typed text or the emoticon's emoji? -/
def IsRaw (env : Env) (term : Str) (r : Rank) : Prop :=
  r = Rank.last term 1 ∨ r = Rank.last term 3 ∨
    ∃ e, env.emoticon term = some e ∧ r = Rank.emoji e Gen.emojiDefaultRank

/-- STRUCTURE THEOREM (PARTIAL: excludes the inputs where `RawSame` fails, see `c17_lists_fails`).
    Position by position the two sorted lists hold ONE core item, shown inside the curled punctuation with the
    option on and inside the straight punctuation with it off, or ONE raw item (typed text, emoticon emoji),
    shown unchanged. -/
theorem c17_rel_partial {env : Env} {cfg : Cfg} {cache : Memo} {term : Str}
    (hw : (split term false).word ≠ []) (hraw : RawSame env cfg cache term) :
    Rel2 (fun a b =>
        (∃ c, a = wrapR ((lead env term).map openQuote) ((tail env term).map closeQuote) c ∧
              b = wrapR (lead env term) (tail env term) c) ∨
        (a = b ∧ IsRaw env term a))
      (suggestList env (on cfg) cache term) (suggestList env (off cfg) cache term) := by
  have hraw' : rawsAt env (on cfg) cache term ⟨(lead env term).map openQuote, word term, (tail env term).map closeQuote⟩ =
      rawsAt env (off cfg) cache term ⟨lead env term, word term, tail env term⟩ := hraw
  rw [suggestList, preparedParts_on env cfg hw]
  exact sort_addExtras_rel2 (R := fun a b => a = b ∧ IsRaw env term a) (fun a b h => h.1 ▸ rfl)
    (.of_eq hraw' fun r hr => ⟨rfl, by
      obtain ⟨_, ⟨e, he, h | ⟨_, _, h⟩⟩ | ⟨_, _, _, _, h⟩⟩ := mem_rawItems.mp hr
      · exact .inr (.inr ⟨e, he, h⟩)
      · exact .inl h
      · exact .inr (.inl h)⟩) rfl

/-- PARTIAL (same exclusion).  With the option on and off the lists have the same length, the same
    variants and rank numbers position by position, and position by position the texts are
    `pre' ++ core ++ trail'` / `pre ++ core ++ trail` with the same core — or the item is the raw
    typed text / the emoticon's emoji and identical in both lists. -/
theorem c17_lists_partial (env : Env) (cfg : Cfg) (cache : Memo) (term : Str)
    (hw : (split term false).word ≠ []) (hraw : RawSame env cfg cache term) :
    let Lon := suggestList env (on cfg) cache term
    let Loff := suggestList env (off cfg) cache term
    Lon.length = Loff.length ∧
    Lon.map (fun r => (r.variant, r.num)) = Loff.map (fun r => (r.variant, r.num)) ∧
    ∀ (i : Nat) (a b : Rank), Lon[i]? = some a → Loff[i]? = some b →
      (∃ core, a.text = (lead env term).map openQuote ++ core ++ (tail env term).map closeQuote ∧
               b.text = lead env term ++ core ++ tail env term) ∨
      (a = b ∧ IsRaw env term a) := by
  have h := c17_rel_partial hw hraw
  refine ⟨h.length_eq, (h.mono ?_).map_eq, fun i a b ha hb => ?_⟩
  · rintro _ _ (⟨c, rfl, rfl⟩ | ⟨rfl, _⟩) <;> simp
  · obtain ⟨hi, rfl⟩ := List.getElem?_eq_some_iff.mp ha
    obtain ⟨hj, rfl⟩ := List.getElem?_eq_some_iff.mp hb
    exact (h.getElem i hi hj).imp_left fun ⟨c, ea, eb⟩ => ⟨c.text, by rw [ea, wrapR_text], by rw [eb, wrapR_text]⟩

/-- PARTIAL (same exclusion).  If the transliterated punctuation contains no curly quote, mapping
    curly quotes back to straight ones makes the two lists of texts equal (same length and order). -/
theorem c17_uncurl_partial (env : Env) (cfg : Cfg) (cache : Memo) (term : Str)
    (hw : (split term false).word ≠ []) (hraw : RawSame env cfg cache term)
    (hp : NoCurly (lead env term)) (ht : NoCurly (tail env term)) :
    (suggestList env (on cfg) cache term).map (uncurl ∘ Rank.text) =
      (suggestList env (off cfg) cache term).map (uncurl ∘ Rank.text) :=
  ((c17_rel_partial hw hraw).mono (by
    rintro _ _ (⟨c, rfl, rfl⟩ | ⟨rfl, _⟩)
    · exact uncurl_wrapR_curled hp ht c
    · rfl)).map_eq

/-- PARTIAL (same exclusion) — the statement of the property: if moreover no candidate shown with
    the option off contains a curly quote, the list with the option on, curly quotes mapped back,
    IS the list with the option off. -/
theorem c17_uncurl_off_partial (env : Env) (cfg : Cfg) (cache : Memo) (term : Str)
    (hw : (split term false).word ≠ []) (hraw : RawSame env cfg cache term)
    (hp : NoCurly (lead env term)) (ht : NoCurly (tail env term))
    (hc : ∀ r ∈ suggestList env (off cfg) cache term, NoCurly r.text) :
    (suggestList env (on cfg) cache term).map (uncurl ∘ Rank.text) =
      (suggestList env (off cfg) cache term).map Rank.text :=
  (c17_uncurl_partial env cfg cache term hw hraw hp ht).trans
    (List.map_congr_left fun r hr => uncurl_of_noCurly (hc r hr))

/-- for every typed text (with or without word part), under the same provisos -/
theorem c17_uncurl_all_partial (env : Env) (cfg : Cfg) (cache : Memo) (term : Str)
    (hraw : (split term false).word ≠ [] → RawSame env cfg cache term)
    (hp : NoCurly (lead env term)) (ht : NoCurly (tail env term)) :
    (suggestList env (on cfg) cache term).map (uncurl ∘ Rank.text) =
      (suggestList env (off cfg) cache term).map (uncurl ∘ Rank.text) := by
  by_cases hw : (split term false).word = []
  · rw [c17_punct_only_list env cfg cache term hw]
  · exact c17_uncurl_partial env cfg cache term hw (hraw hw) hp ht

/-! ### the side condition is necessary: counter-examples to the unrestricted statement -/

/-- a world where transliteration is the identity and the dictionary is empty -/
def idEnv : Env :=
  { convert := id, dictPhonetic := fun _ => some [], suffix := fun _ => none, autocorrect := fun _ => none
    emoticon := fun _ => none, emojiByName := fun _ => none, emojiBengali := fun _ => none
    bijoy := fun s => .ok s, fixedTable := fun _ => [] }

/-- a world where the lone double quote transliterates to `"a` (so that the typed text `"a` equals
    the straight leading punctuation but not the curled one) -/
def preEnv : Env :=
  { idEnv with convert := fun s => if s == ['"'] then ['"', 'a'] else s }

/-- COUNTER-EXAMPLE to the unrestricted list statement (finding): typed text `"e`, English item on,
    the only candidate is the transliteration `e`.  Option off: the wrapped candidate `"e` IS the
    typed text, so `push_checked` drops the English item — 1 candidate.  Option on: the candidate
    is `“e`, the typed text `"e` is new — 2 candidates. -/
theorem c17_lists_fails :
    let cfg : Cfg := { includeEnglish := true }
    let term : Str := ['"', 'e']
    (split term false).word ≠ [] ∧ NoCurly (lead idEnv term) ∧ NoCurly (tail idEnv term) ∧
    suggestList idEnv (on cfg) [] term = [Rank.last ['“', 'e'] 2, Rank.last ['"', 'e'] 3] ∧
    suggestList idEnv (off cfg) [] term = [Rank.last ['"', 'e'] 2] ∧
    ¬ RawSame idEnv cfg [] term := by decide +kernel

/-- second way to break it: the test `term != pre`.  Typed text `"a` whose leading quote
    transliterates to `"a`: option off — the typed text equals the prefix, no English item; option
    on — the prefix is `“a`, the English item is added. -/
theorem c17_lists_fails_pre :
    let cfg : Cfg := { includeEnglish := true }
    let term : Str := ['"', 'a']
    (split term false).word ≠ [] ∧
    (suggestList preEnv (on cfg) [] term).length = 2 ∧ (suggestList preEnv (off cfg) [] term).length = 1 ∧
    ¬ RawSame preEnv cfg [] term := by decide +kernel

/-- the unrestricted statement "same length with the option on and off" is false of the model -/
theorem c17_lists_false :
    ¬ ∀ (env : Env) (cfg : Cfg) (cache : Memo) (term : Str), (split term false).word ≠ [] →
      (suggestList env (on cfg) cache term).length = (suggestList env (off cfg) cache term).length := by
  intro h
  have := h idEnv { includeEnglish := true } [] ['"', 'e'] (by decide +kernel)
  revert this
  decide +kernel

/-- the model of the real transliterator (okkhor), empty dictionary -/
def okEnv : Env := { idEnv with convert := okConvert }

/-- the same COUNTER-EXAMPLE with the real Avro transliteration (finding): the backslash is not
    punctuation for `split` and has no Avro pattern, so typed `"\"` has the word part `\` which
    transliterates to itself.  Option off: one candidate `"\"`; option on: `“\”` and `"\"`. -/
theorem c17_lists_fails_okkhor :
    let cfg : Cfg := { includeEnglish := true }
    let term : Str := ['"', '\\', '"']
    (split term false).word ≠ [] ∧
    suggestList okEnv (on cfg) [] term = [Rank.last ['“', '\\', '”'] 2, Rank.last ['"', '\\', '"'] 3] ∧
    suggestList okEnv (off cfg) [] term = [Rank.last ['"', '\\', '"'] 2] := by decide +kernel

theorem rawItems_eq_of_length {env : Env} {cfg : Cfg} {term : Str} {a b a' b' : Bool}
    (h : (rawItems env cfg term a b).length = (rawItems env cfg term a' b').length) :
    rawItems env cfg term a b = rawItems env cfg term a' b' := by
  unfold rawItems at h ⊢
  -- the two tests enter through their disjunction only
  simp only [Bool.and_assoc, ← Bool.not_or] at h ⊢
  generalize (a || b) = d at h ⊢
  generalize (a' || b') = d' at h ⊢
  by_cases hansi : cfg.ansi = true
  · simp [hansi]
  · simp only [hansi] at h ⊢
    cases hemo : env.emoticon term with
    | some e =>
      simp only [hemo] at h
      revert h; cases d <;> cases d' <;> simp
    | none =>
      simp only [hemo] at h
      revert h; cases cfg.english <;> cases d <;> cases d' <;> simp

/-- EXACTNESS of the side condition: for a non-empty word the two lists have the same length if
    and only if `RawSame` holds — so `c17_lists_partial` excludes exactly the inputs for which the
    property fails. -/
theorem c17_length_iff (env : Env) (cfg : Cfg) (cache : Memo) (term : Str)
    (hw : (split term false).word ≠ []) :
    (suggestList env (on cfg) cache term).length = (suggestList env (off cfg) cache term).length ↔
      RawSame env cfg cache term := by
  constructor
  · intro h
    rw [length_suggestList, length_suggestList, preparedParts_on env cfg hw, preparedParts_off] at h
    exact rawItems_eq_of_length (Nat.add_left_cancel h)
  · intro h
    exact (c17_lists_partial env cfg cache term hw h).1

/-! ## 4. the preselected index -/

/-- the word looked up in the selection store, the stored value found, the store afterwards and
    the memo afterwards are the same with the option on and off -/
theorem c17_stored_same (env : Env) (cfg : Cfg) (s : PState) (term : Str) :
    (preparedParts env (on cfg) term).word = (preparedParts env (off cfg) term).word ∧
    selectedFor env s.selections (preparedParts env (on cfg) term).word =
      selectedFor env s.selections (preparedParts env (off cfg) term).word ∧
    (suggest env (on cfg) s term).1.selections = (suggest env (off cfg) s term).1.selections ∧
    (suggest env (on cfg) s term).1.cache = (suggest env (off cfg) s term).1.cache := by
  have hwd : (preparedParts env (on cfg) term).word = (preparedParts env (off cfg) term).word :=
    (preparedParts_word ..).trans (preparedParts_word ..).symm
  refine ⟨hwd, by rw [hwd], ?_, ?_⟩
  · simp only [suggest, getPrevSelection, hwd]
  · simp only [suggest, hwd]

/-- PARTIAL: the preselected index is the same with the option on and off, for a non-empty word,
    EXCLUDING (a) the inputs excluded by `c17_lists_partial` and (b) the inputs where a raw item
    (typed text, emoticon emoji) equals the stored value wrapped in curled punctuation but not in
    straight punctuation, or vice versa — see `c17_selection_differs`. -/
theorem c17_selection_partial (env : Env) (cfg : Cfg) (s : PState) (term : Str)
    (hw : (split term false).word ≠ [])
    (hraw : RawSame env cfg (memoFill env s.userAutocorrect s.cache (word term)) term)
    (hsel : ∀ x, (x = term ∨ env.emoticon term = some x) →
      (x = (lead env term).map openQuote ++ (selectedFor env s.selections (word term)).1 ++ (tail env term).map closeQuote ↔
       x = lead env term ++ (selectedFor env s.selections (word term)).1 ++ tail env term)) :
    (suggest env (on cfg) s term).2.2 = (suggest env (off cfg) s term).2.2 := by
  rw [suggest_index, suggest_index, suggest_list, suggest_list]
  simp only [preparedParts_on env cfg hw, preparedParts_off, wrapText]
  congr 1
  -- the test "is this the remembered candidate" comes out the same at every position
  refine ((c17_rel_partial hw hraw).mono ?_).findIdx?_eq
  rintro _ _ (⟨c, rfl, rfl⟩ | ⟨rfl, hr⟩) <;> rw [Bool.eq_iff_iff]
  · simp
  · simp only [beq_iff_eq]
    apply hsel
    obtain rfl | rfl | ⟨e, he, rfl⟩ := hr
    · exact .inl rfl
    · exact .inl rfl
    · exact .inr he

/-- a world where `e` transliterates to `এ` (everything else unchanged), empty dictionary -/
def bnEnv : Env :=
  { idEnv with convert := fun s => s.map (fun c => if c == 'e' then 'এ' else c) }

/-- COUNTER-EXAMPLE to "same preselection" (finding): the user once chose the raw English candidate
    `e` for the word `e`; English item on; typed text `"e`.  The two lists are fine (`RawSame`
    holds: `“এ`/`"এ` then the raw `"e`).  Option off: the remembered `e` wrapped in the straight
    quote is `"e` = the raw English item → index 1.  Option on: the target is `“e`, which is no
    candidate → index 0. -/
theorem c17_selection_differs :
    let cfg : Cfg := { includeEnglish := true }
    let s : PState := { selections := [(['e'], ['e'])] }
    let term : Str := ['"', 'e']
    RawSame bnEnv cfg (memoFill bnEnv s.userAutocorrect s.cache (word term)) term ∧
    (suggest bnEnv (on cfg) s term).2.1 = [Rank.last ['“', 'এ'] 2, Rank.last ['"', 'e'] 3] ∧
    (suggest bnEnv (off cfg) s term).2.1 = [Rank.last ['"', 'এ'] 2, Rank.last ['"', 'e'] 3] ∧
    (suggest bnEnv (on cfg) s term).2.2 = 0 ∧ (suggest bnEnv (off cfg) s term).2.2 = 1 := by decide +kernel

/-- the same COUNTER-EXAMPLE with the real Avro transliteration (`e` ↦ `এ`) -/
theorem c17_selection_differs_okkhor :
    let cfg : Cfg := { includeEnglish := true }
    let s : PState := { selections := [(['e'], ['e'])] }
    let term : Str := ['"', 'e']
    RawSame okEnv cfg (memoFill okEnv s.userAutocorrect s.cache (word term)) term ∧
    (suggest okEnv (on cfg) s term).2.1 = [Rank.last ['“', 'এ'] 2, Rank.last ['"', 'e'] 3] ∧
    (suggest okEnv (off cfg) s term).2.1 = [Rank.last ['"', 'এ'] 2, Rank.last ['"', 'e'] 3] ∧
    (suggest okEnv (on cfg) s term).2.2 = 0 ∧ (suggest okEnv (off cfg) s term).2.2 = 1 := by decide +kernel

/-- how the store entry `e ↦ e` of the counter-example arises: `e` typed, the English candidate
    (index 1, not the preselected 0) committed -/
example :
    let cfg : Cfg := { includeEnglish := true, phoneticSuggestion := true }
    let s1 := (pCreateSuggestion okEnv cfg { buffer := ['e'] }).1
    s1.suggestions = [Rank.last ['এ'] 2, Rank.last ['e'] 3] ∧ s1.prevSelection = 0 ∧
    (pCommit cfg s1 1).toOption.map (fun r => r.1.selections) = some [(['e'], ['e'])] := by decide +kernel

/-! ## 5. the fixed method -/

/-- the truncation length and the English item (`Last typed 1`, never wrapped) do not depend on
    the option -/
theorem c17_fixed_english (env : Env) (cfg : Cfg) (s : FState) :
    (fixedCands env (on cfg) s).keep = (fixedCands env (off cfg) s).keep ∧
    (fixedCands env (on cfg) s).english = (fixedCands env (off cfg) s).english ∧
    (fixedCands env (off cfg) s).english =
      if cfg.english && s.buffer != s.typed then some (Rank.last s.typed 1) else none := by
  have e : (on cfg).english = cfg.english := rfl
  have e' : (off cfg).english = cfg.english := rfl
  simp only [fixedCands, e, e']
  split <;> simp

/-- fixed method, non-empty word (NOT partial — no test of the fixed method looks at wrapped
    texts): the candidates handed to the sort with the option on and off are renderings of one list
    of tagged items — core items (typed word, dictionary hits, emoji found by name) inside curled
    resp. straight punctuation, the emoticon's emoji unchanged. -/
theorem c17_fixed_cands (env : Env) (cfg : Cfg) (s : FState) (hw : (split s.buffer true).word ≠ []) :
    ∃ its : List Item,
      (fixedCands env (on cfg) s).cands =
        its.map (Item.render ((split s.buffer true).pre.map openQuote) ((split s.buffer true).trail.map closeQuote)) ∧
      (fixedCands env (off cfg) s).cands =
        its.map (Item.render (split s.buffer true).pre (split s.buffer true).trail) ∧
      ∀ r, Item.raw r ∈ its → ∃ e, env.emoticon s.typed = some e ∧ r = Rank.emoji e Gen.emojiDefaultRank := by
  obtain ⟨its, hraw, hits⟩ := fixed_cands_items env cfg (split s.buffer true).word s.typed
  have hp : fixedParts (on cfg) s.buffer =
      ⟨(split s.buffer true).pre.map openQuote, (split s.buffer true).word, (split s.buffer true).trail.map closeQuote⟩ := by
    rw [fixedParts, if_pos rfl, quoter_spec, if_neg hw]
  refine ⟨its, ?_, ?_, hraw⟩
  · rw [fixedCands_cands, hp]; exact hits _ _
  · rw [fixedCands_cands]; exact hits _ _

/-- fixed method: same number of candidates, same variants and rank numbers position by position,
    and — when the punctuation of the composed text contains no curly quote — the same texts after
    mapping curly quotes back -/
theorem c17_fixed_lists (env : Env) (cfg : Cfg) (s : FState) (hw : (split s.buffer true).word ≠ []) :
    let Con := (fixedCands env (on cfg) s).cands
    let Coff := (fixedCands env (off cfg) s).cands
    Con.length = Coff.length ∧
    Con.map (fun r => (r.variant, r.num)) = Coff.map (fun r => (r.variant, r.num)) ∧
    (NoCurly (split s.buffer true).pre → NoCurly (split s.buffer true).trail →
      Con.map (uncurl ∘ Rank.text) = Coff.map (uncurl ∘ Rank.text)) := by
  obtain ⟨its, hon, hoff, _⟩ := c17_fixed_cands env cfg s hw
  simp only [hon, hoff, List.map_map]
  exact ⟨by simp, List.map_congr_left fun i _ => Item.skel_render i,
    fun hp ht => List.map_congr_left fun i _ => Item.uncurl_render hp ht i⟩

/-- since the ordering of the fixed method only looks at variant and number, every stable sort
    puts both candidate lists in the same order (stated for the model's `sortStable`; the real
    `sort_unstable` is unspecified among equal keys) -/
theorem c17_fixed_sorted (env : Env) (cfg : Cfg) (s : FState) (hw : (split s.buffer true).word ≠ []) :
    ∃ its : List Item,
      sortStable (fixedCands env (on cfg) s).cands =
        its.map (Item.render ((split s.buffer true).pre.map openQuote) ((split s.buffer true).trail.map closeQuote)) ∧
      sortStable (fixedCands env (off cfg) s).cands =
        its.map (Item.render (split s.buffer true).pre (split s.buffer true).trail) := by
  obtain ⟨its, hon, hoff, _⟩ := c17_fixed_cands env cfg s hw
  rw [hon, hoff]
  exact Rel2.exists_map
    (f := Item.render ((split s.buffer true).pre.map openQuote) ((split s.buffer true).trail.map closeQuote))
    (g := Item.render (split s.buffer true).pre (split s.buffer true).trail)
    (sortStable_rel2 (by rintro a b ⟨i, rfl, rfl⟩; exact Item.skel_render i)
      (Rel2.map_map _ _ its (fun i _ => ⟨i, rfl, rfl⟩)))

/-! ## 5b. the `NoCurly` hypotheses hold for the real transliterator and keyboard -/

/-- every character a key can contribute to the typed text is not a curly quote -/
theorem typed_char_noCurly (key : Nat) (ch : Char) (h : keycodeToChar key = some ch) :
    ch ∉ ['‘', '’', '“', '”'] :=
  keycodeToChar_all (P := (· ∉ ['‘', '’', '“', '”'])) (by decide +kernel) h

/-- with the okkhor transliterator the punctuation around the word never contains a curly quote
    when the typed text does not (and typed text never does, `typed_char_noCurly`) -/
theorem okkhor_punct_noCurly (env : Env) (henv : env.convert = okConvert) (term : Str) (h : NoCurly term) :
    NoCurly (lead env term) ∧ NoCurly (tail env term) := by
  simp only [lead, tail, henv]
  exact ⟨okConvert_noCurly (split_all false h).1, okConvert_noCurly (split_all false h).2.2⟩

/-! ## 6. non-vacuity -/

/-- a world with dictionary words, a suffix, an auto-correction, an emoji name and an emoticon -/
def richEnv : Env :=
  { convert := fun s => s.map (fun c => if c == 'a' then 'আ' else if c == 'm' then 'ম' else if c == 'i' then 'ি' else c)
    dictPhonetic := fun w => if w == ['a', 'm', 'i'] then some [['আ', 'ম', 'ি'], ['আ', 'ম', 'ী']] else some []
    suffix := fun _ => none
    autocorrect := fun w => if w == ['a', 'm', 'i'] then some ['a', 'm'] else none
    emoticon := fun w => if w == ['\'', 'x', 'D', '\''] || w == ['\'', 'a', 'm', 'i', '\''] then some ['😆'] else none
    emojiByName := fun w => if w == ['a', 'm', 'i'] then some [['🙂']] else none
    emojiBengali := fun w => if w == ['আ'] then some [['🙂']] else none
    bijoy := fun s => .ok s, fixedTable := fun _ => [] }

/-- non-vacuity of `c17_lists_partial` / `c17_uncurl_partial`: typed `("ami'`, English on.  The
    hypotheses hold and the two lists really differ (only) in the quotes. -/
example :
    let cfg : Cfg := { includeEnglish := true }
    let term : Str := "(\"ami'".toList
    let cache := memoFill richEnv [] [] (word term)
    (split term false).word ≠ [] ∧ RawSame richEnv cfg cache term ∧
    NoCurly (lead richEnv term) ∧ NoCurly (tail richEnv term) ∧
    (suggestList richEnv (on cfg) cache term).map Rank.text =
      ["(“আম’", "(“আমি’", "(“🙂’", "(“আমী’", "(\"ami'"].map String.toList ∧
    (suggestList richEnv (off cfg) cache term).map Rank.text =
      ["(\"আম'", "(\"আমি'", "(\"🙂'", "(\"আমী'", "(\"ami'"].map String.toList := by decide +kernel

/-- non-vacuity, emoticon branch: typed `'ami'` is (in this world) an emoticon; the typed text and
    the emoji are raw items, identical in both lists, while the transliteration is curled -/
example :
    let cfg : Cfg := {}
    let term : Str := "'ami'".toList
    (split term false).word ≠ [] ∧ RawSame richEnv cfg [] term ∧
    (suggestList richEnv (on cfg) [] term).map Rank.text = ["😆", "'ami'", "‘আমি’"].map String.toList ∧
    (suggestList richEnv (off cfg) [] term).map Rank.text = ["😆", "'ami'", "'আমি'"].map String.toList := by decide +kernel

/-- the collision also happens on the emoticon path (finding): `'xD'` is an emoticon whose word
    part `xD` transliterates to itself; option off: the wrapped transliteration `'xD'` is the typed
    text, pushed once; option on: `‘xD’` and the typed text `'xD'` are both listed -/
theorem c17_lists_fails_emoticon :
    let term : Str := "'xD'".toList
    (split term false).word ≠ [] ∧ ¬ RawSame richEnv {} [] term ∧
    (suggestList richEnv (on {}) [] term).map Rank.text = ["😆", "'xD'", "‘xD’"].map String.toList ∧
    (suggestList richEnv (off {}) [] term).map Rank.text = ["😆", "'xD'"].map String.toList := by decide +kernel

/-- non-vacuity of `c17_selection_partial`: a remembered choice is found at the same index -/
example :
    let cfg : Cfg := { includeEnglish := true }
    let s : PState := { selections := [("ami".toList, "আমী".toList)] }
    let term : Str := "\"ami\"".toList
    (split term false).word ≠ [] ∧
    RawSame richEnv cfg (memoFill richEnv s.userAutocorrect s.cache (word term)) term ∧
    (∀ x, (x = term ∨ richEnv.emoticon term = some x) →
      (x = (lead richEnv term).map openQuote ++ (selectedFor richEnv s.selections (word term)).1 ++ (tail richEnv term).map closeQuote ↔
       x = lead richEnv term ++ (selectedFor richEnv s.selections (word term)).1 ++ tail richEnv term)) ∧
    (suggest richEnv (on cfg) s term).2.2 = 3 ∧ (suggest richEnv (off cfg) s term).2.2 = 3 := by
  refine ⟨by decide +kernel, by decide +kernel, ?_, by decide +kernel⟩
  intro x hx
  rcases hx with rfl | h
  · decide +kernel
  · revert h; decide +revert +kernel

/-- non-vacuity of `c17_punct_only`: `"` alone has no word part -/
example : (split ['"'] false).word = [] ∧
    suggestList idEnv (on {}) [] ['"'] = [Rank.last ['"'] 2] := by decide +kernel

/-- non-vacuity of `c17_fixed_cands`: composed text `"আ"`, typed keys `"f"` (`dedupAdjacent` is
    defined by well-founded recursion, so this one is not a plain `decide`) -/
example :
    let s : FState := { rbuf := "\"আ\"".toList.reverse, rtyped := "\"f\"".toList.reverse }
    let cfg : Cfg := { includeEnglish := true }
    (split s.buffer true).word ≠ [] ∧
    (fixedCands richEnv (on cfg) s).cands.map Rank.text = ["“আ”", "“🙂”"].map String.toList ∧
    (fixedCands richEnv (off cfg) s).cands.map Rank.text = ["\"আ\"", "\"🙂\""].map String.toList ∧
    (fixedCands richEnv (on cfg) s).english = some (Rank.last "\"f\"".toList 1) := by
  simp only [fixedCands_eq_R]; decide +kernel

end Riti.C17
