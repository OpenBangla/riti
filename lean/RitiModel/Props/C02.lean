/-
Props/C02 — every returned suggestion is self-consistent and fully retrievable.

`WF` is the list half of the property: the list is non-empty, the preselected index is inside it, the auxiliary
text is the composition.  It holds of whatever the phonetic method returns, except that a punctuation key which keeps
the caller's index is covered only under the hypothesis that this index fits the NEW list (`phonetic_key_wf_partial`;
`override_out_of_range` shows that it need not; Props/C02Selection says when it does).  The read-out half is
`candidates_readable`, `preedit_readable`, `single_readable`.
-/
import RitiModel.Lemmas.Rank
import RitiModel.Lemmas.PhoneticStep
import RitiModel.Lemmas.FixedSuggest
namespace Riti.C02
open Riti

/-- a list-style suggestion is well-formed for composition `comp` -/
def WF (comp : Str) : Sugg → Prop
  | .full aux l sel _ => l ≠ [] ∧ sel < l.length ∧ aux = comp
  | .single _ _ => True

theorem prevSelection_lt (env : Env) (parts : Parts) (l : List Rank) (st : Store) (hl : l ≠ []) :
    (getPrevSelection env parts l st).1 < l.length := by
  simp only [getPrevSelection]
  cases h : l.findIdx? (fun r => r.text == wrapText parts.pre parts.trail (selectedFor env st parts.word).1) with
  | none => simp; exact List.length_pos_iff.mpr hl
  | some i => simpa using (List.findIdx?_eq_some_iff_findIdx_eq.mp h).1

/-- what `create_suggestion` returns is well-formed: non-empty list, preselection inside it,
    auxiliary text = the raw typed buffer -/
theorem phonetic_create_wf (env : Env) (cfg : Cfg) (s : PState) :
    WF s.buffer (pCreateSuggestion env cfg s).2 := by
  simp only [pCreateSuggestion]
  split
  · simp only [suggest, WF]
    refine ⟨?_, ?_, trivial⟩
    · simpa using suggestList_ne_nil env cfg _ s.buffer
    · simpa using prevSelection_lt env _ _ _ (suggestList_ne_nil env cfg _ s.buffer)
  · trivial

theorem refresh_wf (env : Env) (cfg : Cfg) (s : PState) : WF s.buffer (pRefresh env cfg s).2 := by
  unfold pRefresh
  split
  · trivial
  · exact phonetic_create_wf env cfg s

/-- backspace returns a well-formed suggestion -/
theorem phonetic_backspace_wf (env : Env) (cfg : Cfg) (s : PState) (ctrl : Bool) :
    WF (pBackspace env cfg s ctrl).1.buffer (pBackspace env cfg s ctrl).2 := by
  rw [pBackspace_eq, pRefresh_buffer]; exact refresh_wf env cfg _

/-- a key returns a well-formed suggestion — PARTIAL: when the key is one of the punctuation
    characters that keep the caller's selection, the caller's byte must be inside the **new** list.
    (The property only promises validity for the list shown *before*; the code does not
    re-validate, see `override_out_of_range` — known finding.) -/
theorem phonetic_key_wf_partial (env : Env) (cfg : Cfg) (s : PState) (key sel : Nat)
    (hsel : ∀ ch, keycodeToChar key = some ch → isPunctOverride ch = true →
      ∀ aux l e a, (pCreateSuggestion env cfg { s with buffer := s.buffer ++ [ch] }).2 = .full aux l e a → sel < l.length) :
    WF (pKey env cfg s key sel).1.buffer (pKey env cfg s key sel).2 := by
  rw [pKey_eq, pRefresh_buffer]
  have hwf := refresh_wf env cfg { s with buffer := keyBuffer s.buffer key }
  cases hsg : (pRefresh env cfg { s with buffer := keyBuffer s.buffer key }).2 with
  | single t a => trivial
  | full aux l e a =>
    rw [hsg] at hwf
    refine ⟨hwf.1, ?_, hwf.2.2⟩
    -- the index is the computed one unless the key is a punctuation key that keeps the caller's
    unfold keyIndex
    cases hk : keycodeToChar key with
    | none => exact hwf.2.1
    | some ch =>
      simp only
      split
      · next hp =>
        refine hsel ch hk hp aux l e a ?_
        rw [← hsg]; simp [pRefresh, keyBuffer, hk]
      · exact hwf.2.1

/-- every index below the length can be read as a candidate -/
theorem candidates_readable (aux : Str) (l : List Str) (sel : Nat) (a : Bool) (i : Nat) (h : i < l.length) :
    (Sugg.full aux l sel a).getSuggestion i = .ok l[i] := by
  simp [Sugg.getSuggestion, h]

/-- … and as pre-edit text: verbatim without ANSI, through the encoder with it (which must not
    panic on that candidate: `bijoy` total on the list — see C16 for when it is) -/
theorem preedit_readable (env : Env) (aux : Str) (l : List Str) (sel : Nat) (a : Bool) (i : Nat) (h : i < l.length)
    (hb : a = true → ∃ t, env.bijoy l[i] = .ok t) :
    ∃ t, (Sugg.full aux l sel a).getPreEdit env i = .ok t := by
  simp only [Sugg.getPreEdit, List.getElem?_eq_getElem h]
  cases a with
  | false => exact ⟨_, rfl⟩
  | true => simpa using hb rfl

/-- a single-string suggestion is always readable as pre-edit text at index 0 (same proviso) -/
theorem single_readable (env : Env) (t : Str) (a : Bool) (hb : a = true → ∃ u, env.bijoy t = .ok u) :
    ∃ u, (Sugg.single t a).getPreEdit env 0 = .ok u := by
  cases a with
  | false => exact ⟨_, rfl⟩
  | true => simpa [Sugg.getPreEdit] using hb rfl

/-- fixed method, suggestions on: for every ordering function that keeps the number of items (as
    `sort_unstable` does) the list is non-empty, the index is 0 and the auxiliary text is the
    composed text -/
theorem fixed_dict_wf (w : World) (hperm : ∀ l, (w.sorter l).length = l.length) (cfg : Cfg) (s : FState) :
    WF s.buffer (fDictSuggestion w cfg s).2 := by
  obtain ⟨t, _, hc⟩ := fixedCands_shape w.env cfg s
  -- the candidates begin with the composed word (`hc`), and 8 or 9 of them are kept
  have hpos : 0 < ((fDictSuggestion w cfg s).1.suggestions.map Rank.text).length := by
    rw [fDictSuggestion_list, List.length_map, List.length_append, List.length_take, hperm, hc]
    rcases fixedCands_keep_english w.env cfg s with ⟨hk, _⟩ | ⟨hk, _⟩ <;> rw [hk] <;>
      simp only [List.length_cons] <;> omega
  exact ⟨List.length_pos_iff.mp hpos, hpos, rfl⟩

/-- fixed method, suggestions off: the single string is the composed text -/
theorem fixed_lonely (cfg : Cfg) (s : FState) : fLonely cfg s = .single s.buffer cfg.ansi := rfl

/-- the override is not re-validated (known finding): a world in which `ab` has three candidates
    and `ab:` one; the caller's selection 2 was valid for the list shown before the `:` key, and
    the suggestion returned for `:` carries index 2 with a list of length 1. -/
def witnessEnv : Env :=
  { convert := id
    dictPhonetic := fun w => if w == ['a', 'b'] then some [['x'], ['y']] else some []
    suffix := fun _ => none, autocorrect := fun _ => none, emoticon := fun _ => none
    emojiByName := fun _ => none, emojiBengali := fun _ => none, bijoy := fun s => .ok s, fixedTable := fun _ => [] }

/-- (preselected index, length) of a list suggestion -/
def shape : Sugg → Option (Nat × Nat)
  | .full _ l sel _ => some (sel, l.length)
  | .single _ _ => none

theorem override_out_of_range :
    let cfg : Cfg := { phoneticSuggestion := true }
    let s1 := (pKey witnessEnv cfg {} 41110 0).1          -- a
    let r2 := pKey witnessEnv cfg s1 41111 0               -- b : three candidates
    let r3 := pKey witnessEnv cfg r2.1 99 2                -- ':' with the (valid) selection 2
    shape r2.2 = some (0, 3) ∧ shape r3.2 = some (2, 1) := by
  decide +kernel

end Riti.C02
