/-
Props/EditDistance — the `editDistance` of the model (a row-by-row transcription of the Rust crate
`edit-distance`, used by `Rank::new_suggestion`) IS the Levenshtein distance:
it equals the textbook recursion `lev`, which is the minimum cost of an edit script (`Script`),
and `lev` is a metric.  Consequences for the stored rank `(10 · distance) as u8`.

`lev` and `Script` are defined in Lemmas/EditDistance (namespace `Riti.EditDistance`), for any type of
characters with decidable equality; `lev` is written with the minimum of three in BOTH cases
(`lev_cons_cons`), the `if x = y then lev a b else 1 + min …` form is the theorem `lev_cons_cons_textbook`.
-/
import RitiModel.Lemmas.EditDistance
namespace Riti.EditDistance
open Riti Riti.Gen

/-! ## 1. the model computes the textbook recursion -/

/-- The model's edit distance (the `edit-distance` crate's algorithm) equals the textbook Levenshtein recursion, for all words. -/
theorem editDistance_eq_lev (a b : List Char) : editDistance a b = lev a b := by
  rw [editDistance_eq_lev_reverse, lev_reverse]

section Generic
variable {α : Type} [DecidableEq α]

/-- Defining equation: the distance from the empty word is the length of the other word. -/
theorem lev_nil_left (b : List α) : lev [] b = b.length := lev_nil_left_aux b

/-- Defining equation: the distance to the empty word is the length of the word. -/
theorem lev_nil_right (a : List α) : lev a [] = a.length := lev_nil_right_aux a

/-- Defining equation: delete `x`, insert `y`, or put `x` opposite `y` (free if they are equal) — the cheapest of the three. -/
theorem lev_cons_cons (x y : α) (a b : List α) :
    lev (x :: a) (y :: b)
      = min (lev a (y :: b) + 1) (min (lev (x :: a) b + 1) (lev a b + if x = y then 0 else 1)) :=
  lev_cons_cons_subCost x y a b

/-! ## 2. the declarative specification: cheapest edit script -/

/-- The edit distance of the model is the MINIMUM cost of an edit script turning `a` into `b`. -/
theorem editDistance_is_min_script (a b : List Char) :
    Script a b (editDistance a b) ∧ ∀ n, Script a b n → editDistance a b ≤ n := by
  rw [editDistance_eq_lev]
  exact ⟨script_of_lev a b, fun _ h => script_lower_bound h⟩

/-! ## 3. `lev` is a metric -/

theorem lev_self (a : List α) : lev a a = 0 := by
  induction a with
  | nil => rfl
  | cons x a ih => have := lev_cons_cons_le x x a a; rw [subCost_self, ih] at this; omega

/-- The distance lies between the difference of the lengths (either way round; stated without truncated subtraction)
    and the length of the longer word. -/
theorem lev_length_bounds (a b : List α) :
    a.length ≤ lev a b + b.length ∧ b.length ≤ lev a b + a.length ∧ lev a b ≤ max a.length b.length := by
  induction a, b using lev_induct with
  | nilL b => simp [lev_nil_left_aux]
  | nilR x a => simp [lev_nil_right_aux]
  | cc x a y b ih1 ih2 ih3 =>
    have := subCost_le_one x y
    rw [lev_cons_cons_subCost]
    simp only [List.length_cons] at *
    omega

/-- The distance is at least the difference of the lengths (either way round). -/
theorem length_sub_le_lev (a b : List α) :
    a.length - b.length ≤ lev a b ∧ b.length - a.length ≤ lev a b := by
  have := lev_length_bounds a b
  omega

/-- Distance 0 means equal words: distinct suggestions never look identical to the ranking. -/
theorem lev_eq_zero_iff (a b : List α) : lev a b = 0 ↔ a = b := by
  constructor
  · induction a, b using lev_induct with
    | nilL b => intro h; rw [lev_nil_left_aux] at h; exact (List.eq_nil_of_length_eq_zero h).symm
    | nilR x a => intro h; rw [lev_nil_right_aux] at h; simp at h
    | cc x a y b ih1 ih2 ih3 =>
      intro h
      rw [lev_cons_cons_subCost] at h
      have h0 : lev a b = 0 ∧ subCost x y = 0 := by omega
      rw [ih3 h0.1, subCost_eq_zero.mp h0.2]
  · rintro rfl; exact lev_self a

/-- The distance is symmetric. -/
theorem lev_comm (a b : List α) : lev a b = lev b a :=
  Nat.le_antisymm (script_lower_bound (script_symm (script_of_lev b a)))
    (script_lower_bound (script_symm (script_of_lev a b)))

/-- The triangle inequality. -/
theorem lev_triangle (a b c : List α) : lev a c ≤ lev a b + lev b c :=
  lev_le_script_add (script_of_lev a b) c

theorem lev_cons_cons_same (x : α) (a b : List α) : lev (x :: a) (x :: b) = lev a b := by
  have h1 := lev_le_cons_left x a b
  have h2 := lev_le_cons_left x b a
  rw [lev_comm b a, lev_comm (x :: b) a] at h2
  rw [lev_cons_cons_subCost, subCost_self]
  omega

/-- The recursion in its other textbook form: equal heads are dropped, different heads cost one edit. -/
theorem lev_cons_cons_textbook (x y : α) (a b : List α) :
    lev (x :: a) (y :: b)
      = if x = y then lev a b else 1 + min (lev a (y :: b)) (min (lev (x :: a) b) (lev a b)) := by
  split
  · next h => subst h; exact lev_cons_cons_same x a b
  · next h =>
    have : subCost x y = 1 := by simp [subCost, h]
    rw [lev_cons_cons_subCost, this]; omega

/-! ## 4. what the ranking needs -/

theorem lev_append_left (w a b : List α) : lev (w ++ a) (w ++ b) = lev a b := by
  induction w with
  | nil => rfl
  | cons x w ih => simpa [lev_cons_cons_same] using ih

/-- A common suffix can be dropped. -/
theorem lev_append_suffix (a b w : List α) : lev (a ++ w) (b ++ w) = lev a b := by
  rw [← lev_reverse (a ++ w), List.reverse_append, List.reverse_append, lev_append_left, lev_reverse]

/-- A completion `w ++ t` of the typed word `w` is at distance exactly `|t|`. -/
theorem lev_append_right (w t : List α) : lev w (w ++ t) = t.length := by
  have := lev_append_left w [] t
  rwa [List.append_nil, lev_nil_left_aux] at this

end Generic

/-- The model's distance is symmetric: `new_suggestion` does not care which word is the base. -/
theorem editDistance_comm (a b : List Char) : editDistance a b = editDistance b a := by
  rw [editDistance_eq_lev, editDistance_eq_lev, lev_comm]

/-- The model's distance is 0 exactly for equal words. -/
theorem editDistance_eq_zero_iff (a b : List Char) : editDistance a b = 0 ↔ a = b := by
  rw [editDistance_eq_lev, lev_eq_zero_iff]

/-- The model's distance is bounded by the longer word's length (in characters). -/
theorem editDistance_le_max_length (a b : List Char) : editDistance a b ≤ max a.length b.length := by
  rw [editDistance_eq_lev]; exact (lev_length_bounds a b).2.2

/-- The model's distance satisfies the triangle inequality. -/
theorem editDistance_triangle (a b c : List Char) :
    editDistance a c ≤ editDistance a b + editDistance b c := by
  simp only [editDistance_eq_lev]; exact lev_triangle a b c

/-- A suggestion that completes the typed word by `t` is stored with rank `10 · |t|` truncated to a byte (`as u8`), whatever the length. -/
theorem rank_of_completion_mod (w t : List Char) :
    (Rank.newSuggestion (w ++ t) w).num = (10 * t.length) % 256 := by
  simp only [Rank.newSuggestion, Rank.num, rankFactor, rankModulus]
  rw [editDistance_eq_lev, lev_append_right, Nat.mul_comm]

/-- A suggestion that completes the typed word by `t` (at most 25 characters) is stored with rank `10 · |t|`. -/
theorem rank_of_completion (w t : List Char) (h : t.length ≤ 25) :
    (Rank.newSuggestion (w ++ t) w).num = 10 * t.length := by
  rw [rank_of_completion_mod]; omega

/-- The typed word itself gets rank 0. -/
theorem rank_of_self (w : List Char) : (Rank.newSuggestion w w).num = 0 := by
  simpa using rank_of_completion w [] (by simp)

/-- At distance 26 the `as u8` cast wraps: the stored rank is 4 (= 260 mod 256), better than that of a one-edit neighbour. -/
theorem rank_wraps_at_26 : ∃ a b : List Char, editDistance a b = 26 ∧ (Rank.newSuggestion b a).num = 4 :=
  ⟨List.replicate 26 'a', [], by decide +kernel, by decide +kernel⟩

/-- The bound 25 of `rank_of_completion` is sharp: EVERY completion by 26 characters is stored with rank 4, not 260. -/
theorem rank_of_completion_wraps_at_26 (w t : List Char) (h : t.length = 26) :
    (Rank.newSuggestion (w ++ t) w).num = 4 := by
  rw [rank_of_completion_mod, h]

/-! ## 5. sanity -/

example : editDistance "kitten".toList "sitting".toList = 3 := by decide +kernel
example : editDistance "sitting".toList "kitten".toList = 3 := by decide +kernel
example : lev "flaw".toList "lawn".toList = 2 := by decide +kernel
example : editDistance "flaw".toList "lawn".toList = 2 := by decide +kernel
/-- a Bengali pair: আমি → আমরা (substitute ি by র, insert া) -/
example : editDistance "আমি".toList "আমরা".toList = 2 := by decide +kernel
/-- distances count code points, not grapheme clusters: ক্ষ is three characters -/
example : editDistance "ক".toList "ক্ষ".toList = 2 := by decide +kernel
example : editDistance [] [] = 0 := by decide +kernel
example : editDistance "".toList "বাংলা".toList = 5 := by decide +kernel
example : editDistance "বাংলা".toList "".toList = 5 := by decide +kernel
/-- a concrete non-trivial script (non-vacuity of `Script`): kitten → sitting at cost 3 -/
example : Script "kitten".toList "sitting".toList 3 :=
  .subst 'k' 's' (by decide +kernel) <| .keep 'i' <| .keep 't' <| .keep 't' <| .subst 'e' 'i' (by decide +kernel) <|
    .keep 'n' <| .insert 'g' .nil
/-- non-vacuity of `rank_of_completion` -/
example : (Rank.newSuggestion "আমার".toList "আমা".toList).num = 10 := by
  rw [show "আমার".toList = "আমা".toList ++ "র".toList by decide +kernel]
  exact (rank_of_completion _ _ (by decide +kernel)).trans (by decide +kernel)

end Riti.EditDistance
