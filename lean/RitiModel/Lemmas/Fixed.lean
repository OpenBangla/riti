/-
Lemmas/Fixed — `process_key_value` with the old vowel-sign order off (C04, C12).  A key value then only rewrites
the composed text, by `stepBuf`: the branches of `pkvCore` that remain (`processKeyValue_noOrder`).  For C12 the
declarative rule list `rules` of Spec/FixedRules is put into the shape of the code once: its guards over the
regenerated constants and the code's reading of the last two code points (`guards_unfold`), the first rule that
applies to a sign value (`firstRule_sign`; the sign branch `karTail` is rules R2–R5 or appending,
`karTail_eq_rules`) and to any other value (`firstRule_other`, `applyFirst_other`).  `CoveredValue` are the values
on which the rules, which look at the whole value, and the code, which looks at its first code point, agree.
Last, locality: what a value does as a function of the last two code points (`localEffect`).
Buffers are reversed (head = right-most code point).
-/
import RitiModel.Model.Fixed
import RitiModel.Spec.FixedRules
import RitiModel.Lemmas.FixedCore
import RitiModel.Lemmas.Chars
namespace Riti
open Riti.Spec

/-! ### the literals of the specification are the regenerated constants -/

theorem lit_R : 'র' = cR := by decide
theorem lit_hasanta : '্' = cHasanta := by decide
theorem lit_chandra : 'ঁ' = cChandra := by decide
theorem lit_lengthMark : 'ৗ' = cLengthMark := by decide
theorem lit_ZWNJ : '\u200c' = cZWNJ := by decide
theorem zoFolaValue_eq : zoFolaValue = zoFola := by decide

/-- the specification's sign ↦ independent vowel table is the `match` of `process_key_value`: both are
    `karVowels` -/
theorem karToVowel_eq_spec (c : Char) : karToVowel c = independentOf c := by
  have e : signVowelTable = karVowels := by decide +kernel
  have hspec : ∀ p ∈ karVowels, independentOf p.1 = some p.2 := by decide +kernel
  cases h : karToVowel c with
  | some v => exact (hspec _ (karToVowel_mem h)).symm
  | none =>
    unfold independentOf
    cases hf : signVowelTable.find? (fun p => p.1 == c) with
    | none => rfl
    | some p =>
      have hc : p.1 = c := eq_of_beq (List.find?_some (p := fun p : Char × Char => p.1 == c) hf)
      have := karToVowel_of_mem p (e ▸ List.mem_of_find?_eq_some hf)
      rw [hc, h] at this
      cases this

/-! ### `processKeyValue` without the old vowel-sign order -/

/-- what `process_key_value` does to the (reversed) buffer when the old vowel-sign order option
    is off: the branches that remain, in the order of the code -/
def stepBuf (cfg : Cfg) (rbuf : Str) (v : Str) : Str :=
  let rmc := rbuf.headD '\x00'
  if v == zoFola then pushStr (zwjBefore rbuf) v
  else if v == rephValue && cfg.fixedOldReph then insertOldStyleReph rbuf
  else
    match v.head? with
    | none => pushStr rbuf v
    | some ch =>
      if isKar ch then karTail cfg rbuf rmc ch
      else if ch == cHasanta && rmc == cHasanta then cZWNJ :: rbuf
      else if ch == cLengthMark && rmc == cHasanta then cOU :: rbuf.drop 1
      else pushStr rbuf v

theorem pkvCore_noOrder (again : Str → Str × Option Char) (cfg : Cfg) (rbuf : Str) (p : Option Char) (v : Str)
    (h : cfg.fixedKarOrder = false) : pkvCore again cfg rbuf p v = (stepBuf cfg rbuf v, p) := by
  simp only [pkvCore, pkvZofola, pkvKar, pkvOther, pushValue, stepBuf, h, Bool.false_and, Bool.false_eq_true, if_false]
  refine ite_app (f := (·, p)) (fun _ => rfl) fun _ => ite_app (f := (·, p)) (fun _ => rfl) fun _ => ?_
  cases v.head? with
  | none => rfl
  | some ch =>
    exact ite_app (f := (·, p)) (fun _ => rfl) fun _ => ite_app (f := (·, p)) (fun _ => rfl) fun _ =>
      ite_app (f := (·, p)) (fun _ => rfl) fun _ => rfl

/-- no special case applies (`pkvCore_push`, of which only the part about the hasanta is left): the value
    is appended -/
theorem stepBuf_push {cfg : Cfg} {rbuf v : Str} (hz : v ≠ zoFola) (hr : cfg.fixedOldReph = false ∨ v ≠ rephValue)
    (hv : ∀ c, v.head? = some c → isKar c = false ∧
      ((c == cHasanta || c == cLengthMark) = true → (rbuf.headD '\x00' == cHasanta) = false)) :
    stepBuf cfg rbuf v = pushStr rbuf v := by
  have e := pkvCore_noOrder (·, none) { cfg with fixedKarOrder := false } rbuf none v rfl
  rw [pkvCore_push (cfg := { cfg with fixedKarOrder := false }) _ hz hr
    fun c hc => ⟨(hv c hc).1, fun h => ⟨(hv c hc).2 h, fun h => by cases h⟩⟩] at e
  exact congrArg Prod.fst (e.symm.trans (pushValue_idle fun h => by cases h))

theorem processKeyValue_noOrder {cfg : Cfg} {s : FState} {v : Str} (h : cfg.fixedKarOrder = false) :
    processKeyValue cfg s v = { s with rbuf := stepBuf cfg s.rbuf v } := by
  rw [processKeyValue_eq, pkvPair, pkvCore_noOrder _ _ _ _ _ h]; rfl

theorem stepBuf_head {cfg : Cfg} {rbuf t : Str} {c : Char} (hz : c :: t ≠ zoFola)
    (hr : cfg.fixedOldReph = false ∨ c :: t ≠ rephValue) :
    stepBuf cfg rbuf (c :: t) =
      if isKar c then karTail cfg rbuf (rbuf.headD '\x00') c
      else if c == cHasanta && rbuf.headD '\x00' == cHasanta then cZWNJ :: rbuf
      else if c == cLengthMark && rbuf.headD '\x00' == cHasanta then cOU :: rbuf.drop 1
      else pushStr rbuf (c :: t) := by
  rw [stepBuf, if_neg (by simpa using hz), if_neg (not_reph hr)]; rfl

/-! ### the rule list, unfolded -/

theorem firstRule_cons (r : Rule) (rs : List Rule) (cfg : Cfg) (rbuf v : Str) :
    firstRule (r :: rs) cfg rbuf v = if r.guard cfg rbuf v then some r else firstRule rs cfg rbuf v := by
  unfold firstRule; rw [List.find?_cons]; cases r.guard cfg rbuf v <;> rfl

theorem applyFirst_cons (r : Rule) (rs : List Rule) (cfg : Cfg) (rbuf v : Str) :
    applyFirst (r :: rs) cfg rbuf v = if r.guard cfg rbuf v then r.action cfg rbuf v else applyFirst rs cfg rbuf v := by
  unfold applyFirst; rw [firstRule_cons]; cases r.guard cfg rbuf v <;> rfl

/-- the name of the first rule that applies, `none` when the value is just appended -/
def firedRule (cfg : Cfg) (rbuf v : Str) : Option String := (firstRule rules cfg rbuf v).map (·.name)

theorem firstRule_rules (cfg : Cfg) (rbuf v : Str) :
    firstRule rules cfg rbuf v =
      if r1.guard cfg rbuf v then some r1 else if r2.guard cfg rbuf v then some r2
      else if r3.guard cfg rbuf v then some r3 else if r4.guard cfg rbuf v then some r4
      else if r5.guard cfg rbuf v then some r5 else if r6.guard cfg rbuf v then some r6
      else if r7.guard cfg rbuf v then some r7 else none := by
  simp only [rules, firstRule_cons]; rfl

/-! ### the rules test the last code point, the code `unwrap_or_default()` of it -/

theorem lastIs_eq {p : Char → Bool} (h : p '\x00' = false) (rbuf : Str) : lastIs p rbuf = p (rbuf.headD '\x00') := by
  cases rbuf with
  | nil => exact h.symm
  | cons _ _ => rfl

theorem beforeLastIs_eq {p : Char → Bool} (h : p '\x00' = false) (rbuf : Str) :
    beforeLastIs p rbuf = p ((rbuf.drop 1).headD '\x00') := by
  match rbuf with
  | [] => exact h.symm
  | [_] => exact h.symm
  | _ :: _ :: _ => rfl

/-- the guards, over the regenerated constants and the code's reading of the last two code points -/
theorem guards_unfold (cfg : Cfg) (rbuf v : Str) :
    r1.guard cfg rbuf v = (v == zoFola && rbuf.headD '\x00' == cR && !((rbuf.drop 1).headD '\x00' == cHasanta)) ∧
    r2.guard cfg rbuf v = (cfg.fixedVowel && (signOf v).isSome && autoVowelPos rbuf (rbuf.headD '\x00')) ∧
    r3.guard cfg rbuf v = (cfg.fixedChandra && (signOf v).isSome && rbuf.headD '\x00' == cChandra) ∧
    r4.guard cfg rbuf v = ((signOf v).isSome && rbuf.headD '\x00' == cHasanta) ∧
    r5.guard cfg rbuf v = (cfg.fixedKar && (signOf v).any isLigatureKar && isPureConsonant (rbuf.headD '\x00')) ∧
    r6.guard cfg rbuf v = (v == [cHasanta] && rbuf.headD '\x00' == cHasanta) ∧
    r7.guard cfg rbuf v = (v == [cLengthMark] && rbuf.headD '\x00' == cHasanta) := by
  have hR := lastIs_eq (p := (· == cR)) (by decide) rbuf
  have hH := lastIs_eq (p := (· == cHasanta)) nul_ne_hasanta rbuf
  have hC := lastIs_eq (p := (· == cChandra)) nul_ne_chandra rbuf
  have hB := beforeLastIs_eq (p := (· == cHasanta)) nul_ne_hasanta rbuf
  simp only [r1, r2, r3, r4, r5, r6, r7, zoFolaValue_eq, lit_R, lit_hasanta, lit_chandra, lit_lengthMark,
    vowelFormingPosition, autoVowelPos, hR, hH, hC, hB, lastIs_eq unclassed_nul.vowel, lastIs_eq unclassed_nul.mark,
    lastIs_eq unclassed_nul.cons, and_self]

/-! ### the rules look at the value as a whole

and through four tests only: is it the zo-fola, a sign (`signOf`), a lone hasanta, a lone length mark. -/

/-- which rules can apply is settled by the value: R1 needs the zo-fola, R2–R5 a sign, R6 a lone hasanta,
    R7 a lone length mark -/
theorem guards_value (cfg : Cfg) (rbuf v : Str) :
    (v ≠ zoFola → r1.guard cfg rbuf v = false) ∧
    (signOf v = none → r2.guard cfg rbuf v = false ∧ r3.guard cfg rbuf v = false ∧ r4.guard cfg rbuf v = false ∧
      r5.guard cfg rbuf v = false) ∧
    (v ≠ [cHasanta] → r6.guard cfg rbuf v = false) ∧ (v ≠ [cLengthMark] → r7.guard cfg rbuf v = false) := by
  obtain ⟨g1, g2, g3, g4, g5, g6, g7⟩ := guards_unfold cfg rbuf v
  refine ⟨fun h => ?_, fun h => ?_, fun h => ?_, fun h => ?_⟩
  · rw [g1, beq_eq_false_iff_ne.mpr h]; rfl
  · rw [g2, g3, g4, g5, h]; simp
  · rw [g6, beq_eq_false_iff_ne.mpr h]; rfl
  · rw [g7, beq_eq_false_iff_ne.mpr h]; rfl

theorem signOf_kar {k : Char} (hk : isKar k = true) : signOf [k] = some k := by simp [signOf, hk]

theorem kar_value_facts {k : Char} (hk : isKar k = true) : [k] ≠ zoFola ∧ [k] ≠ [cHasanta] ∧ [k] ≠ [cLengthMark] := by
  have h1 := ne_of_class hk unclassed_hasanta.kar
  have h2 := ne_of_class hk unclassed_lengthMark.kar
  simp [zoFola, beq_eq_false_iff_ne.mp h1, beq_eq_false_iff_ne.mp h2]

theorem signOf_some {v : Str} {k : Char} (h : signOf v = some k) : v = [k] ∧ isKar k = true := by
  match v, h with
  | [], h => simp [signOf] at h
  | [c], h =>
    simp only [signOf] at h
    split at h
    · rename_i hc; simp at h; subst h; exact ⟨rfl, hc⟩
    · simp at h
  | _ :: _ :: _, h => simp [signOf] at h

theorem sign_actions (cfg : Cfg) (rbuf : Str) {k : Char} (hk : isKar k = true) :
    r2.action cfg rbuf [k] = (match karToVowel k with | some w => w :: rbuf | none => rbuf) ∧
    r3.action cfg rbuf [k] = cChandra :: k :: rbuf.drop 1 ∧
    r4.action cfg rbuf [k] = (match karToVowel k with | some w => w :: rbuf.drop 1 | none => rbuf) ∧
    r5.action cfg rbuf [k] = k :: cZWNJ :: rbuf := by
  simp only [r2, r3, r4, r5, signOf_kar hk, Option.bind_some, ← karToVowel_eq_spec, lit_chandra, lit_ZWNJ, append,
    dropLast1, List.reverse_singleton, List.singleton_append]
  exact ⟨rfl, trivial, rfl, trivial⟩

/-! ### the rule list in the shape of the code -/

/-- on a sign value the first applicable rule is found as the sign branch of the code finds its case: R2 to R5, in
    that order -/
theorem firstRule_sign {cfg : Cfg} {rbuf : Str} {k : Char} (hk : isKar k = true) :
    firstRule rules cfg rbuf [k] =
      if cfg.fixedVowel && autoVowelPos rbuf (rbuf.headD '\x00') then some r2
      else if cfg.fixedChandra && rbuf.headD '\x00' == cChandra then some r3
      else if rbuf.headD '\x00' == cHasanta then some r4
      else if cfg.fixedKar && isLigatureKar k && isPureConsonant (rbuf.headD '\x00') then some r5
      else none := by
  obtain ⟨k1, k2, k3⟩ := kar_value_facts hk
  obtain ⟨f1, -, f6, f7⟩ := guards_value cfg rbuf [k]
  obtain ⟨-, g2, g3, g4, g5, -, -⟩ := guards_unfold cfg rbuf [k]
  rw [firstRule_rules, f1 k1, f6 k2, f7 k3, g2, g3, g4, g5, signOf_kar hk]
  simp only [Bool.false_eq_true, if_false, Option.isSome_some, Bool.and_true, Bool.true_and, Option.any_some]

/-- on every other value: R1, R6 or R7 -/
theorem firstRule_other {cfg : Cfg} {rbuf v : Str} (hs : signOf v = none) :
    firstRule rules cfg rbuf v =
      if v == zoFola && rbuf.headD '\x00' == cR && !((rbuf.drop 1).headD '\x00' == cHasanta) then some r1
      else if v == [cHasanta] && rbuf.headD '\x00' == cHasanta then some r6
      else if v == [cLengthMark] && rbuf.headD '\x00' == cHasanta then some r7
      else none := by
  obtain ⟨g1, -, -, -, -, g6, g7⟩ := guards_unfold cfg rbuf v
  obtain ⟨f2, f3, f4, f5⟩ := (guards_value cfg rbuf v).2.1 hs
  rw [firstRule_rules, g1, f2, f3, f4, f5, g6, g7]
  simp only [Bool.false_eq_true, if_false]

/-- a sign after any text: the sign branch of the code is rules R2–R5 (in that order) or plain
    appending -/
theorem karTail_eq_rules {cfg : Cfg} {rbuf : Str} {k : Char} (hk : isKar k = true) :
    karTail cfg rbuf (rbuf.headD '\x00') k = applyFirst rules cfg rbuf [k] := by
  obtain ⟨a2, a3, a4, a5⟩ := sign_actions cfg rbuf hk
  let F : Option Rule → Str := fun o => match o with | some r => r.action cfg rbuf [k] | none => append rbuf [k]
  rw [applyFirst, firstRule_sign hk, karTail]
  refine ite_app (f := F) (fun _ => a2.symm) fun _ => ite_app (f := F) (fun _ => a3.symm) fun _ =>
    ite_app (f := F) (fun _ => a4.symm) fun _ => ?_
  -- R5 asks for a ligature-making sign after a consonant at once, the code first for the consonant
  rw [← a5]
  cases cfg.fixedKar <;> cases isPureConsonant (rbuf.headD '\x00') <;> cases isLigatureKar k <;> rfl

/-- any other value: the zo-fola (R1), a lone hasanta (R6), a lone length mark (R7) or plain appending -/
theorem applyFirst_other (cfg : Cfg) (rbuf : Str) {v : Str} (hs : signOf v = none) :
    applyFirst rules cfg rbuf v =
      if v == zoFola then pushStr (zwjBefore rbuf) v
      else if v == [cHasanta] && rbuf.headD '\x00' == cHasanta then cZWNJ :: rbuf
      else if v == [cLengthMark] && rbuf.headD '\x00' == cHasanta then cOU :: rbuf.drop 1
      else pushStr rbuf v := by
  rw [applyFirst, firstRule_other hs]
  by_cases hz : v = zoFola
  · subst hz
    simp only [beq_self_eq_true, Bool.true_and, if_true, zwjBefore, bne]
    by_cases c : (rbuf.headD '\x00' == cR && !(rbuf.drop 1).headD '\x00' == cHasanta) = true
    · rw [if_pos c, if_pos c]; rfl
    · rw [if_neg c, if_neg c]; rfl
  · simp only [beq_eq_false_iff_ne.mpr hz, Bool.false_and, Bool.false_eq_true, if_false]
    let F : Option Rule → Str := fun o => match o with | some r => r.action cfg rbuf v | none => append rbuf v
    exact (ite_app (f := F) (fun _ => rfl) fun _ => ite_app (f := F) (fun _ => rfl) fun _ => rfl).symm

/-! ### the values on which rules and code agree -/

/-- the key values for which the documented rules (which speak of the value *as a whole*) and the
    code (which looks at the value's *first code point* only) agree: a single code point, the
    zo-fola value, or a value that does not start with a vowel sign, hasanta or the length mark -/
def CoveredValue (v : Str) : Prop :=
  v.length = 1 ∨ v = zoFola ∨ ∀ c, v.head? = some c → isKar c = false ∧ c ≠ cHasanta ∧ c ≠ cLengthMark

theorem coveredValue_cons {c : Char} {t : Str} :
    CoveredValue (c :: t) ↔ t = [] ∨ c :: t = zoFola ∨ (isKar c = false ∧ c ≠ cHasanta ∧ c ≠ cLengthMark) := by
  simp [CoveredValue]

instance (v : Str) : Decidable (CoveredValue v) := by
  unfold CoveredValue
  cases v with
  | nil => exact isTrue (Or.inr (Or.inr (fun c h => by simp at h)))
  | cons c t =>
    have : Decidable (∀ c', (c :: t).head? = some c' → isKar c' = false ∧ c' ≠ cHasanta ∧ c' ≠ cLengthMark) :=
      decidable_of_iff (isKar c = false ∧ c ≠ cHasanta ∧ c ≠ cLengthMark)
        ⟨fun h c' hc' => by simp at hc'; subst hc'; exact h, fun h => h c rfl⟩
    exact inferInstance

/-! ### locality: only the last two code points matter -/

/-- what a vowel sign `k` does after a non-empty text ending in `a`: (code points popped, code
    points pushed — right-most first) -/
def karEffect (cfg : Cfg) (a k : Char) : Nat × Str :=
  if cfg.fixedVowel && (isVowel a || isMark a) then
    match karToVowel k with
    | some w => (0, [w])
    | none => (0, [])
  else if cfg.fixedChandra && a == cChandra then (1, [cChandra, k])
  else if a == cHasanta then
    match karToVowel k with
    | some w => (1, [w])
    | none => (0, [])
  else if cfg.fixedKar && isPureConsonant a then (0, if isLigatureKar k then [k, cZWNJ] else [k])
  else (0, [k])

/-- the effect of a key value on a text of at least two code points, as a function of the last
    code point `a`, the one before `b`, the value and the options only: (code points popped — 0 or
    1 —, code points pushed, right-most first).  Old vowel-sign order off, old-reph key excluded. -/
def localEffect (cfg : Cfg) (a b : Char) (v : Str) : Nat × Str :=
  if v == zoFola then (0, v.reverse ++ (if a == cR && b != cHasanta then [cZWJ] else []))
  else
    match v.head? with
    | none => (0, [])
    | some ch =>
      if isKar ch then karEffect cfg a ch
      else if ch == cHasanta && a == cHasanta then (0, [cZWNJ])
      else if ch == cLengthMark && a == cHasanta then (1, [cOU])
      else (0, v.reverse)

theorem ite_pops_le {c : Prop} [Decidable c] {x y : Nat × Str} (h1 : c → x.1 ≤ 1) (h2 : ¬c → y.1 ≤ 1) :
    (if c then x else y).1 ≤ 1 := ite_ind (Q := fun e : Nat × Str => e.1 ≤ 1) h1 h2

theorem karEffect_le (cfg : Cfg) (a k : Char) : (karEffect cfg a k).1 ≤ 1 := by
  unfold karEffect
  refine ite_pops_le (fun _ => ?_) fun _ => ite_pops_le (fun _ => Nat.le_refl 1) fun _ =>
    ite_pops_le (fun _ => ?_) fun _ => ite_pops_le (fun _ => Nat.zero_le 1) fun _ => Nat.zero_le 1
  · cases karToVowel k <;> exact Nat.zero_le 1
  · cases karToVowel k
    · exact Nat.zero_le 1
    · exact Nat.le_refl 1

theorem localEffect_le (cfg : Cfg) (a b : Char) (v : Str) : (localEffect cfg a b v).1 ≤ 1 := by
  unfold localEffect
  refine ite_pops_le (fun _ => Nat.zero_le 1) fun _ => ?_
  cases v.head? with
  | none => exact Nat.zero_le 1
  | some ch =>
    exact ite_pops_le (fun _ => karEffect_le cfg a ch) fun _ => ite_pops_le (fun _ => Nat.zero_le 1) fun _ =>
      ite_pops_le (fun _ => Nat.le_refl 1) fun _ => Nat.zero_le 1

/-- an `if` between texts is the `if` between effects (code points popped, pushed) applied to `rbuf` -/
theorem ite_effect {rbuf : Str} {c : Prop} [Decidable c] {x y : Str} {e e' : Nat × Str}
    (h1 : c → x = e.2 ++ rbuf.drop e.1) (h2 : ¬c → y = e'.2 ++ rbuf.drop e'.1) :
    (if c then x else y) = (if c then e else e').2 ++ rbuf.drop (if c then e else e').1 :=
  ite_app (f := fun e : Nat × Str => e.2 ++ rbuf.drop e.1) h1 h2

/-- the sign branch only looks at the last code point: `karEffect` is `karTail`, branch for branch -/
theorem karTail_local (cfg : Cfg) (a k : Char) (rest : Str) :
    karTail cfg (a :: rest) a k = (karEffect cfg a k).2 ++ (a :: rest).drop (karEffect cfg a k).1 := by
  unfold karTail karEffect
  refine ite_effect (fun _ => ?_) fun _ => ite_effect (fun _ => rfl) fun _ => ite_effect (fun _ => ?_) fun _ =>
    ite_effect (fun _ => ?_) fun _ => rfl
  · cases karToVowel k <;> rfl
  · cases karToVowel k <;> rfl
  · cases isLigatureKar k <;> rfl

end Riti
