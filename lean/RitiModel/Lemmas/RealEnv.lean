/-
Lemmas/RealEnv — the REAL engine as an `Env`: the modelled components (okkhor transliterator `okConvert`, regex look-up
`dictSearch`, poriborton encoder `Riti.bijoy`) over a `Data` record for the JSON data files; the predicates on data
files that Props/RealEnv reduces the side conditions of the property theorems to; the tiny data set its kernel runs
(and those of Props/EmojiTables) use, with the look-up tabulated once.
-/
import RitiModel.Model.Regex
import RitiModel.Model.Bijoy
import RitiModel.Lemmas.Store
import RitiModel.Lemmas.NoNul
namespace Riti.Real
open Riti Riti.Gen

/-! ### the real environment -/

/-- the JSON data files and the tables of the emojicon crate, as look-up functions -/
structure Data where
  /-- dictionary.json: table name ↦ words in file order (`[]` for an unknown name) -/
  dictionary : String → List Str
  /-- suffix.json -/
  suffix : Str → Option Str
  /-- the bundled autocorrect.json -/
  autocorrect : Str → Option Str
  /-- emojicon `get_by_emoticon` -/
  emoticon : Str → Option Str
  /-- emojicon `get_by_name` -/
  emojiByName : Str → Option (List Str)
  /-- `BengaliEmoji::get` -/
  emojiBengali : Str → Option (List Str)

/-- the environment of the real engine: the three modelled components, the rest from the data files (mirrors
    `Driver.mkEnv`; there the look-up answers and the Bijoy encodings come from the trace and are cross-checked against
    `dictSearch` and `Riti.bijoy`, here the two are used directly — `dictSearch` never answers `none`,
    `dictPhonetic_real_isSome`) -/
def realEnv (d : Data) : Env where
  convert := okConvert
  dictPhonetic := dictSearch d.dictionary
  suffix := d.suffix
  autocorrect := d.autocorrect
  emoticon := d.emoticon
  emojiByName := d.emojiByName
  emojiBengali := d.emojiBengali
  bijoy := Riti.bijoy
  fixedTable := d.dictionary

/-- a world around the real environment (layout files and the ordering function stay parameters; `Driver.mkWorld`
    uses `sortStable`) -/
def realWorld (d : Data) (layouts : String → Option Layout) (sorter : Sorter) : World :=
  { env := realEnv d, layouts := layouts, sorter := sorter }

/-! ### predicates on the data files -/

structure DataNoNul (d : Data) : Prop where
  dict : ∀ t, ∀ s ∈ d.dictionary t, NoNul s
  sfx : ∀ k v, d.suffix k = some v → NoNul v
  ac : ∀ k v, d.autocorrect k = some v → NoNul v
  emo : ∀ k v, d.emoticon k = some v → NoNul v
  emoName : ∀ k l, d.emojiByName k = some l → ∀ s ∈ l, NoNul s
  emoBn : ∀ k l, d.emojiBengali k = some l → ∀ s ∈ l, NoNul s

/-- `P` holds of every character of every TEXT entry of the data files (dictionary words, suffix and auto-correct
    values): what can reach a candidate of the dictionary stage -/
structure TextAll (P : Char → Prop) (d : Data) : Prop where
  dict : ∀ t, ∀ s ∈ d.dictionary t, AllC P s
  sfx : ∀ k v, d.suffix k = some v → AllC P v
  ac : ∀ k v, d.autocorrect k = some v → AllC P v

/-- … and of the two emoji tables of the phonetic method as well: everything that can reach a candidate -/
structure DataAll (P : Char → Prop) (d : Data) : Prop where
  text : TextAll P d
  emo : ∀ k v, d.emoticon k = some v → AllC P v
  emoName : ∀ k l, d.emojiByName k = some l → ∀ s ∈ l, AllC P s

/-- `P` separates text from emoji: every emoji of the two tables of the phonetic method has a character outside `P` (and
    no name lists an emoji twice) — what `C07.EmojiFresh` and `C18.EnglishNotEmoji` come to on the data files -/
structure EmojiMarked (P : Char → Prop) (d : Data) : Prop where
  emo : ∀ k v, d.emoticon k = some v → ∃ c ∈ v, ¬ P c
  emoName : ∀ k l, d.emojiByName k = some l → l.Nodup ∧ ∀ s ∈ l, ∃ c ∈ s, ¬ P c

/-! ### a tiny data set -/

def wordsA : List Str := ["আমি".toList, "আম".toList, "আমার".toList]
def wordsE : List Str := ["এমি".toList]

def tiny : Data :=
  { dictionary := fun t => if t == "aa" then wordsA else if t == "e" then wordsE else []
    suffix := fun k => if k == "ke".toList then some "কে".toList else none
    autocorrect := fun k => if k == "amr".toList then some "amar".toList else none
    emoticon := fun k => if k == ":)".toList then some "😊".toList else none
    emojiByName := fun k => if k == "ami".toList then some ["🙋".toList] else none
    emojiBengali := fun _ => none }

/-- what the look-up over the tiny dictionary answers for the words typed in the examples of Props/RealEnv and
    Props/EmojiTables -/
def tinyAnswers : List (Str × List Str) :=
  [("a".toList, []), ("am".toList, ["আম".toList]), ("ami".toList, ["আমি".toList, "এমি".toList]),
   ("amik".toList, []), ("amike".toList, []), ("amr".toList, []), (":".toList, []), ("cool".toList, [])]

/-- `realEnv tiny` with the look-up tabulated on `tinyAnswers` (as `Driver.mkEnv` takes the answers from the trace) -/
def tinyEnv : Env :=
  { realEnv tiny with
    dictPhonetic := fun w => ((alookup tinyAnswers w).map some).getD (dictSearch tiny.dictionary w) }

/-- Every kernel evaluation of `dictSearch` decodes the string literals of okkhor's generated pattern table, which costs
    more than the rest of a run: the examples rewrite with this equation first, so that it is paid once, here. -/
theorem realEnv_tiny : realEnv tiny = tinyEnv := by
  have h : ∀ p ∈ tinyAnswers, dictSearch tiny.dictionary p.1 = some p.2 := by decide +kernel
  unfold tinyEnv realEnv
  congr 1
  funext w
  cases ha : alookup tinyAnswers w with
  | none => rfl
  | some l => exact h _ (AList.alookup_mem_pair ha)

end Riti.Real
