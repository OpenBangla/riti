/-
Lemmas/SortSpec — the list-level facts behind Props/SortSpec: a sorted, stable rearrangement of a
list under `Rank.cmp` is what the model's insertion sort (`sortStable`) returns, hence unique; two
sorted rearrangements agree position by position up to ties.  Everything is stated with the raw
predicates (`List.Pairwise`, `List.filter`); Props/SortSpec gives them names.
Only reflexivity and antisymmetry of `Rank.cmp` (true of ALL ranks) are used for uniqueness;
transitivity on the members of the list (`CmpTransOn`) is used only for existence (`Lemmas/Sort`:
`sortStable_sorted_of_trans`, `sortStable_stable_of_trans`) and for ties.
-/
import RitiModel.Lemmas.Sort
namespace Riti

/-! ### every stable sort is the model's: no transitivity needed -/

/-- ANY list that is a rearrangement of `l`, ascending, and keeps every tie class of a member of
    `l` in input order is the list the model's insertion sort returns — for every `l`, transitive
    comparator or not.  (If the comparator is not transitive on `l` such a list may not exist.) -/
theorem eq_sortStable_of_sorted_stable : ∀ (l l' : List Rank), l'.Perm l →
    l'.Pairwise (fun a b => a.cmp b ≠ .gt) →
    (∀ x ∈ l, l'.filter (fun y => y.cmp x == .eq) = l.filter (fun y => y.cmp x == .eq)) →
    l' = sortStable l
  | [], l', hp, _, _ => by simpa [sortStable] using hp
  | x :: xs, l', hp, hs, hf => by
    -- `x` is the first of its tie class in the input, hence in `l'`: nothing in front of it is tied with it
    have hx : l'.find? (fun y => y.cmp x == .eq) = some x := by
      rw [← List.head?_filter, hf x (by simp)]
      simp [cmp_refl]
    obtain ⟨_, A, B, rfl, hA⟩ := List.find?_eq_some_iff_append.mp hx
    have hxA : x ∉ A := fun h => by simpa [cmp_refl] using hA x h
    -- without `x` the list is a stable sort of the rest
    have ih := eq_sortStable_of_sorted_stable xs ((A ++ x :: B).erase x) (by simpa using hp.erase x)
      (hs.sublist List.erase_sublist) fun y hy => by
        rw [← List.erase_filter, hf y (List.mem_cons_of_mem _ hy), List.erase_filter, List.erase_cons_head]
    rw [List.erase_append_right _ hxA, List.erase_cons_head] at ih
    rw [List.pairwise_append, List.pairwise_cons] at hs
    rw [sortStable, ← ih]
    refine (insertSortedFront_append x A B (fun y hy => ?_) fun b hb => ?_).symm
    · cases h : y.cmp x
      · rfl
      · simpa [h] using hA y hy
      · exact absurd h (hs.2.2 y hy x (by simp))
    · exact (cmp_ne_lt_iff_ne_gt b x).mpr (hs.2.1.1 b (List.mem_of_mem_head? hb))

/-! ### ties: the position of a tie class -/

/-- the number of items of `l` strictly below `r`: the index at which the tie class of `r` starts
    in every ascending rearrangement of `l` -/
def tieRank (l : List Rank) (r : Rank) : Nat := l.countP (fun y => y.cmp r == .lt)

theorem tieRank_perm {l l' : List Rank} (h : l'.Perm l) (r : Rank) : tieRank l' r = tieRank l r :=
  h.countP_eq _

theorem countP_lt_countP {α : Type} {p q : α → Bool} {l : List α} (h : ∀ x ∈ l, p x = true → q x = true)
    {a : α} (ha : a ∈ l) (hq : q a = true) (hp : p a = false) : l.countP p < l.countP q := by
  obtain ⟨A, B, rfl⟩ := List.append_of_mem ha
  have hA : A.countP p ≤ A.countP q := List.countP_mono_left fun x hx => h x (by simp [hx])
  have hB : B.countP p ≤ B.countP q := List.countP_mono_left fun x hx => h x (by simp [hx])
  simp only [List.countP_append, List.countP_cons, hq, hp, if_true, Bool.false_eq_true, if_false]
  omega

theorem tieRank_mono {l : List Rank} (ht : CmpTransOn l) {a b : Rank} (ha : a ∈ l) (hb : b ∈ l)
    (hab : a.cmp b ≠ .gt) : tieRank l a ≤ tieRank l b := by
  apply List.countP_mono_left
  intro y hy hya
  have hya' : y.cmp a = .lt := by simpa using hya
  simp [ht.lt_of_lt_of_le hy ha hb hya' hab]

theorem tieRank_strict {l : List Rank} (ht : CmpTransOn l) {a b : Rank} (ha : a ∈ l) (hb : b ∈ l)
    (hab : a.cmp b = .lt) : tieRank l a < tieRank l b := by
  apply countP_lt_countP (a := a)
  · intro y hy hya
    have hya' : y.cmp a = .lt := by simpa using hya
    simp [ht.lt_of_lt_of_le hy ha hb hya' (by simp [hab])]
  · exact ha
  · simp [hab]
  · simp [cmp_refl]

theorem tieRank_eq_iff {l : List Rank} (ht : CmpTransOn l) {a b : Rank} (ha : a ∈ l) (hb : b ∈ l) :
    tieRank l a = tieRank l b ↔ a.cmp b = .eq := by
  constructor
  · intro h
    cases hc : a.cmp b
    · have := tieRank_strict ht ha hb hc; omega
    · rfl
    · have := tieRank_strict ht hb ha ((cmp_lt_iff_gt b a).mpr hc); omega
  · intro h
    exact Nat.le_antisymm (tieRank_mono ht ha hb (by simp [h]))
      (tieRank_mono ht hb ha (by simp [(cmp_eq_symm a b).mp h]))

/-- two ascending rearrangements of `l` carry the same tie class at every position (`tieRank_eq_iff`) -/
theorem map_tieRank_eq_of_sorted_perm {l l₁ l₂ : List Rank} (ht : CmpTransOn l)
    (hp₁ : l₁.Perm l) (hs₁ : l₁.Pairwise (fun a b => a.cmp b ≠ .gt))
    (hp₂ : l₂.Perm l) (hs₂ : l₂.Pairwise (fun a b => a.cmp b ≠ .gt)) :
    l₁.map (tieRank l) = l₂.map (tieRank l) := by
  apply List.Perm.eq_of_pairwise (le := fun m n : Nat => m ≤ n)
  · intro a b _ _ h1 h2; exact Nat.le_antisymm h1 h2
  · rw [List.pairwise_map]
    exact hs₁.imp_of_mem (fun ha hb h => tieRank_mono ht (hp₁.subset ha) (hp₁.subset hb) h)
  · rw [List.pairwise_map]
    exact hs₂.imp_of_mem (fun ha hb h => tieRank_mono ht (hp₂.subset ha) (hp₂.subset hb) h)
  · exact (hp₁.trans hp₂.symm).map _

end Riti
