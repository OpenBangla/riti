/-
Props/C03 — phonetic output is the Avro transliteration of exactly what was typed.
With suggestions off the string returned is by definition the three parts of `split`, converted and
joined (`lonely_is_parts`); the content of the property is where `SplittedString::split` cuts, and
`split_wrap` (Lemmas/Split) says that a word of letters and digits wrapped in the 27 punctuation
characters is cut at the word.  Stated for every `Env` (so for every transliteration function
`convert`); `convert_nil` is what the concrete okkhor model adds.
-/
import RitiModel.Model.Okkhor
import RitiModel.Lemmas.PhoneticStep
import RitiModel.Lemmas.Candidates
import RitiModel.Spec.LayoutSpec
namespace Riti.C03
open Riti Riti.Gen

/-- `split_wrapped` for either treatment of the colon (no letter or digit is one) -/
theorem split_wrapped_ic (ic : Bool) (lead w trail : Str) (hw : w ≠ [])
    (hwa : ∀ c ∈ w, isAlnum c = true) (hl : ∀ c ∈ lead, isPunct27 c = true) (ht : ∀ c ∈ trail, isPunct27 c = true) :
    split (lead ++ w ++ trail) ic = ⟨lead, w, trail⟩ :=
  split_wrap ic lead w trail hw (fun c hc => punct27_meta c (hl c hc)) (fun c hc => punct27_meta c (ht c hc))
    (fun x hx => alnum_not_meta x (hwa x (List.mem_of_mem_head? hx)))
    (fun y hy => have h := hwa y (List.mem_of_mem_getLast? hy)
      ⟨alnum_not_meta y h, alnum_ne_backtick y h, by rw [alnum_ne_colon y h, Bool.and_false]⟩)

/-- a text of letters and digits is all word -/
theorem split_alnum (w : Str) (h : ∀ c ∈ w, isAlnum c = true) (ic : Bool) : split w ic = ⟨[], w, []⟩ := by
  by_cases hw : w = []
  · subst hw; rfl
  · simpa using split_wrapped_ic ic [] w [] hw h (by simp) (by simp)

/-- leading punctuation, a non-empty word of letters and digits, trailing punctuation: the three
    parts are cut exactly there (punctuation = the 27 characters of the property) -/
theorem split_wrapped (lead w trail : Str) (hw : w ≠ [])
    (hwa : ∀ c ∈ w, isAlnum c = true) (hl : ∀ c ∈ lead, isPunct27 c = true) (ht : ∀ c ∈ trail, isPunct27 c = true) :
    split (lead ++ w ++ trail) false = ⟨lead, w, trail⟩ :=
  split_wrapped_ic false lead w trail hw hwa hl ht

/-- suggestions off: the single string is convert(pre) ++ convert(word) ++ convert(trail) -/
theorem lonely_is_parts (env : Env) (t : Str) :
    suggestOnlyPhonetic env t =
      env.convert (split t false).pre ++ env.convert (split t false).word ++ env.convert (split t false).trail := rfl

/-- clause 1 of the statement: letters and digits only -/
theorem c03_word (env : Env) (hnil : env.convert [] = []) (w : Str) (h : ∀ c ∈ w, isAlnum c = true) :
    suggestOnlyPhonetic env w = env.convert w := by
  rw [lonely_is_parts, split_alnum w h]; simp [hnil]

/-- clause 2: wrapped in punctuation -/
theorem c03_wrapped (env : Env) (lead w trail : Str) (hw : w ≠ [])
    (hwa : ∀ c ∈ w, isAlnum c = true) (hl : ∀ c ∈ lead, isPunct27 c = true) (ht : ∀ c ∈ trail, isPunct27 c = true) :
    suggestOnlyPhonetic env (lead ++ w ++ trail) = env.convert lead ++ env.convert w ++ env.convert trail := by
  rw [lonely_is_parts, split_wrapped lead w trail hw hwa hl ht]

/-- what the engine returns with suggestions off is `suggestOnlyPhonetic` of the buffer -/
theorem lonely_returned (env : Env) (cfg : Cfg) (s : PState) (h : cfg.phoneticSuggestion = false) :
    (pCreateSuggestion env cfg s).2 = .single (suggestOnlyPhonetic env s.buffer) cfg.ansi := by
  rw [pCreate_off env cfg s h]

/-- clause 3: with suggestions on, the transliteration (modulo curling of the wrapping quotes) is
    always a candidate — for **every** typed text, configuration and memo state. -/
theorem translit_is_candidate (env : Env) (cfg : Cfg) (cache : Memo) (term : Str) :
    let s := split term false
    let curl := cfg.smartQuote && !s.word.isEmpty
    let p' := if curl then (env.convert s.pre).map openQuote else env.convert s.pre
    let r' := if curl then (env.convert s.trail).map closeQuote else env.convert s.trail
    (p' ++ env.convert s.word ++ r') ∈ (suggestList env cfg cache term).map Rank.text := by
  intro s curl p' r'
  have hparts : preparedParts env cfg term = ⟨p', s.word, r'⟩ := by
    simp only [preparedParts, smartQuoter, p', r', curl, s]
    cases cfg.smartQuote <;> cases (split term false).word.isEmpty <;> rfl
  have h := translit_mem_suggestList env cfg cache term
  rwa [hparts] at h

/-- the list returned for a key is `suggestList` over the filled memo -/
theorem returned_list (env : Env) (cfg : Cfg) (st : PState) (term : Str) :
    (suggest env cfg st term).2.1 =
      suggestList env cfg (memoFill env st.userAutocorrect st.cache (preparedParts env cfg term).word) term :=
  suggest_list env cfg st term

/-- every one of the 94 printable ASCII characters can be typed (regenerated key table) -/
theorem typeable : (List.range' 33 94).all (fun c => keyChar.any (fun p => p.2 == c)) = true := by decide +kernel

/-- the regenerated `keycode_to_char` table is the table transcribed from riti.h -/
theorem key_table_is_spec : Gen.keyChar = Spec.keyChars := by decide +kernel

/-- the okkhor model converts the empty text to the empty text -/
theorem convert_nil : okConvert [] = [] := rfl

/-- no pattern has an empty `find` (so the parser loop consumes input on every iteration) -/
theorem patterns_nonempty : okkhorPatterns.all (fun p => p.find.length > 0) = true := by decide +kernel

/-- `split_wrapped` on a concrete wrapped word, by evaluation -/
example : split "(\"ami\"!".toList false = ⟨"(\"".toList, "ami".toList, "\"!".toList⟩ := by decide +kernel

end Riti.C03
