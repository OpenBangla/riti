/-
Lemmas/FixedStale — the fixed method's `suggestions` field (the list last built) is dead data
whenever nothing is being composed or suggestions are off: two states that differ only in it
return the same suggestions for every call and stay that way.  Used by C11 (an idle updated
context against a new one).
-/
import RitiModel.Model.Context
import RitiModel.Lemmas.FixedCore
namespace Riti

def withSugg (L : List Rank) (x : FState) : FState := { x with suggestions := L }

theorem withSugg_self (x : FState) : withSugg x.suggestions x = x := rfl

theorem withSugg_withSugg (L L' : List Rank) (x : FState) : withSugg L (withSugg L' x) = withSugg L x := rfl

/-- `process_key_value` neither reads nor writes the list -/
theorem processKeyValue_stale (cfg : Cfg) (s : FState) (v : Str) (L : List Rank) :
    processKeyValue cfg (withSugg L s) v = withSugg L (processKeyValue cfg s v) := by
  rw [processKeyValue_eq, processKeyValue_eq]; rfl

theorem fKeyState_stale (layout : Layout) (cfg : Cfg) (s : FState) (key modifier : Nat) (L : List Rank) :
    fKeyState layout cfg (withSugg L s) key modifier = (fKeyState layout cfg s key modifier).map (withSugg L) := by
  rw [fKeyState_eq, fKeyState_eq]
  cases getCharForKey layout key (getModifiers modifier) cfg.fixedNumpad with
  | none => rfl
  | some value => simp only [Option.map_some, processKeyValue_stale]; rfl

theorem fBackspaceState_stale (s : FState) (ctrl : Bool) (L : List Rank) :
    fBackspaceState (withSugg L s) ctrl = (withSugg L (fBackspaceState s ctrl).1, (fBackspaceState s ctrl).2) := by
  let F : FState × Bool → FState × Bool := fun r => (withSugg L r.1, r.2)
  unfold fBackspaceState
  exact ite_app (f := F) (fun _ => rfl) fun _ =>
    ite_app (f := F) (fun _ => ite_app (f := F) (fun _ => rfl) fun _ => rfl) fun _ =>
    ite_app (f := F) (fun _ => ite_app (f := F) (fun _ => rfl) fun _ => rfl) fun _ => rfl

/-- `a` is `b` up to the list last built, and the list agrees whenever it can be read
    (suggestions on and something composed) -/
def Stale (cfg : Cfg) (a b : FState) : Prop :=
  (∃ L, a = withSugg L b) ∧ (cfg.fixedSuggestion = true → b.rbuf ≠ [] → a = b)

theorem Stale.refl (cfg : Cfg) (a : FState) : Stale cfg a a := ⟨⟨a.suggestions, rfl⟩, fun _ _ => rfl⟩

/-- an idle state against the initial state -/
theorem stale_idle (cfg : Cfg) (s : FState) : Stale cfg (fClear s) {} := ⟨⟨s.suggestions, rfl⟩, fun _ h => absurd rfl h⟩

theorem fCreateSuggestion_stale (w : World) (cfg : Cfg) (b : FState) (L : List Rank) :
    (fCreateSuggestion w cfg (withSugg L b)).2 = (fCreateSuggestion w cfg b).2 ∧
    Stale cfg (fCreateSuggestion w cfg (withSugg L b)).1 (fCreateSuggestion w cfg b).1 := by
  unfold fCreateSuggestion
  by_cases hc : cfg.fixedSuggestion = true
  · simp only [hc, if_true]
    exact ⟨rfl, Stale.refl _ _⟩
  · simp only [hc]
    exact ⟨rfl, ⟨L, rfl⟩, fun h => absurd h hc⟩

theorem fKey_stale (w : World) (l : Layout) (cfg : Cfg) (a b : FState) (key modifier : Nat) (h : Stale cfg a b) :
    (fKey w l cfg a key modifier).2 = (fKey w l cfg b key modifier).2 ∧
    Stale cfg (fKey w l cfg a key modifier).1 (fKey w l cfg b key modifier).1 := by
  obtain ⟨⟨L, hL⟩, heq⟩ := h
  subst hL
  unfold fKey
  rw [fKeyState_stale]
  cases hk : fKeyState l cfg b key modifier with
  | some b' =>
    simp only [Option.map_some]
    have e1 : (withSugg L b').rbuf = b'.rbuf := rfl
    have e2 : (withSugg L b').pending = b'.pending := rfl
    simp only [e1, e2]
    split
    · rename_i hidle
      refine ⟨rfl, ⟨L, rfl⟩, fun _ hne => ?_⟩
      simp only [Bool.and_eq_true, List.isEmpty_iff] at hidle
      exact absurd hidle.1 hne
    · exact fCreateSuggestion_stale w cfg b' L
  | none =>
    simp only [Option.map_none]
    refine ⟨?_, ⟨L, rfl⟩, heq⟩
    simp only [fCurrentSuggestion]
    by_cases hr : b.rbuf = []
    · have : (withSugg L b).rbuf = [] := hr
      simp [hr, this]
    · by_cases hc : cfg.fixedSuggestion = true
      · rw [heq hc hr]
      · have : (withSugg L b).rbuf = b.rbuf := rfl
        simp [hc, this, fLonely, FState.buffer]

theorem fBackspace_stale (w : World) (cfg : Cfg) (a b : FState) (ctrl : Bool) (h : Stale cfg a b) :
    (fBackspace w cfg a ctrl).2 = (fBackspace w cfg b ctrl).2 ∧
    Stale cfg (fBackspace w cfg a ctrl).1 (fBackspace w cfg b ctrl).1 := by
  obtain ⟨⟨L, hL⟩, heq⟩ := h
  subst hL
  unfold fBackspace
  rw [fBackspaceState_stale]
  by_cases hmk : (fBackspaceState b ctrl).2 = true
  · simp only [hmk, if_true]
    exact fCreateSuggestion_stale w cfg _ L
  · have hmk' : (fBackspaceState b ctrl).2 = false := by simpa using hmk
    simp only [hmk', Bool.false_eq_true, if_false]
    -- the flag says that no text is left
    exact ⟨trivial, ⟨L, rfl⟩, fun _ hne => absurd (by simpa [hmk'] using (fBackspaceState_spec b ctrl).2.2.1) hne⟩

/-- commit / finish: both end idle -/
theorem fClear_stale (cfg : Cfg) (a b : FState) (h : Stale cfg a b) : Stale cfg (fClear a) (fClear b) := by
  obtain ⟨⟨L, hL⟩, _⟩ := h
  subst hL
  exact ⟨⟨L, rfl⟩, fun _ hne => absurd rfl hne⟩

/-- the relation survives a change of configuration made while idle -/
theorem stale_cfg_idle (cfg cfg' : Cfg) (a b : FState) (h : Stale cfg a b) (hidle : b.rbuf = []) : Stale cfg' a b :=
  ⟨h.1, fun _ hne => absurd hidle hne⟩

theorem stale_ongoing (cfg : Cfg) (a b : FState) (h : Stale cfg a b) : fOngoing a = fOngoing b := by
  obtain ⟨⟨L, hL⟩, _⟩ := h
  subst hL; rfl

end Riti
