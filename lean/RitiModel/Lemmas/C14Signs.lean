/-
Lemmas/C14Signs — what ONE vowel-sign key does in a vowel-forming position ("Automatic Vowel
Forming" of `process_key_value`, src/fixed/method.rs), with the old vowel-sign order off, on with
nothing waiting, and on with a left-standing sign waiting (`pkv_kar_waiting`: the waiting sign becomes its
independent vowel or is dropped, and the key is then handled as if nothing had waited).  For Props/C14Signs.
Everything here is on the REVERSED buffer (head = right-most code point).
-/
import RitiModel.Lemmas.KarOrder
namespace Riti

/-- the text a sign contributes in a vowel-forming position: its independent vowel, or nothing for a
    sign without one (U+09C4) -/
def indepStr (k : Char) : Str := (karToVowel k).toList

theorem karTail_forming (cfg : Cfg) (hv : cfg.fixedVowel = true) {u : Str} (k : Char)
    (hpos : autoVowelPos u (u.headD '\x00') = true) :
    karTail cfg u (u.headD '\x00') k = indepStr k ++ u := by
  unfold karTail indepStr
  rw [hv, hpos]
  cases karToVowel k <;> rfl

theorem forming_not_hasanta {u : Str} (hpos : autoVowelPos u (u.headD '\x00') = true) :
    (u.headD '\x00' == cHasanta) = false :=
  ((position_exclusive u).1 hpos).2.1

theorem pkv_sign_forming (cfg : Cfg) (hv : cfg.fixedVowel = true) {u : Str} {p : Option Char} {k : Char}
    (hk : isKar k = true) (hpos : autoVowelPos u (u.headD '\x00') = true)
    (hon : cfg.fixedKarOrder = true → p = none ∧ isLeftStandingKar k = false ∧ twoPart u k = false) :
    pkvPair cfg u p [k] = (indepStr k ++ u, p) := by
  rw [pkv_kar_tail cfg hk hon, karTail_forming cfg hv k hpos]

/-- option ON, a sign `k1` waiting, the text not ending in a hasanta: a sign key that is not left-standing (and does
    not complete a two-part spelling) first settles the waiting sign — it becomes its independent vowel if the
    position is vowel-forming (with automatic vowel forming on) and is silently DROPPED otherwise — and is then
    handled as if nothing had been waiting -/
theorem pkv_kar_waiting (cfg : Cfg) (hon : cfg.fixedKarOrder = true) {u : Str} (k1 : Char) {k2 : Char}
    (hk : isKar k2 = true) (hl : isLeftStandingKar k2 = false) (hh : (u.headD '\x00' == cHasanta) = false)
    (hx : twoPart u k2 = false) :
    pkvPair cfg u (some k1) [k2] =
      pkvPair cfg (if cfg.fixedVowel && autoVowelPos u (u.headD '\x00')
        then (match karToVowel k1 with | some v => v :: u | none => u) else u) none [k2] := by
  unfold twoPart at hx
  rw [pkvPair_kar hk, pkvPair_kar hk, pkvKar]
  simp only [hon, hl, hx, hh, Bool.and_false, Bool.false_eq_true, if_false, if_true]
  -- nothing waiting: the recursive call is not reached
  rfl

/-- … in a vowel-forming position: the waiting sign `k1` becomes its independent vowel `v1` and the key, now
    standing after a vowel, its own; nothing waits any more -/
theorem pkv_sign_on_pending (cfg : Cfg) (hon : cfg.fixedKarOrder = true) (hv : cfg.fixedVowel = true)
    {u : Str} {k1 v1 k2 : Char} (h1 : karToVowel k1 = some v1)
    (hv1 : isVowel v1 = true) (he1 : (v1 == cEKar) = false) (hk : isKar k2 = true) (hl : isLeftStandingKar k2 = false)
    (hpos : autoVowelPos u (u.headD '\x00') = true) (hx : twoPart u k2 = false) :
    pkvPair cfg u (some k1) [k2] = (indepStr k2 ++ v1 :: u, none) := by
  rw [pkv_kar_waiting cfg hon k1 hk hl (forming_not_hasanta hpos) hx, hv, hpos, h1]
  exact pkv_sign_forming cfg hv hk (by simp [autoVowelPos, hv1]) fun _ => ⟨rfl, hl, by simp [twoPart, he1]⟩

/-- … in any other position the waiting sign is lost -/
theorem pkv_sign_on_pending_lost (cfg : Cfg) (hon : cfg.fixedKarOrder = true) {u : Str}
    (k1 : Char) {k2 : Char} (hk : isKar k2 = true) (hl : isLeftStandingKar k2 = false)
    (hnpos : (cfg.fixedVowel && autoVowelPos u (u.headD '\x00')) = false)
    (hh : (u.headD '\x00' == cHasanta) = false) (hx : twoPart u k2 = false) :
    pkvPair cfg u (some k1) [k2] = (karTail cfg u (u.headD '\x00') k2, none) := by
  rw [pkv_kar_waiting cfg hon k1 hk hl hh hx, hnpos]
  exact pkv_kar_tail cfg hk fun _ => ⟨rfl, hl, hx⟩

end Riti
