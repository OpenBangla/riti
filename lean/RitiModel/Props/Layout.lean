/-
Props/Layout — the layout FILE (and the data files) inside the model.

`Config::get_layout` + `Layout::parse` are modelled by `Riti.JsonValue.layoutOfFile` (Model/JsonValue:
UTF-8 → serde_json's `Value` reader → `v["layout"]` → `from_value::<HashMap<String,String>>`).
This file proves, for ALL documents:

* read-back: a well-formed value printed compactly (`serde_json::to_string`), pretty
  (`to_string_pretty`, any indentation) or with ANY whitespace between its tokens is read as that
  value (`parse_print`, `parse_printPretty`, `parse_print_ws`, `valueOfFile_print`); nesting of
  127 containers is the limit (`depth_127_accepted`, `depth_128_rejected`);
* `layoutOfFile_spec`: a document whose LAST `layout` member is an object of strings yields the
  map that gives every name its LAST value, whatever other members surround it;
* `rejects_*`: not an object / no `layout` member / `layout` not an object / a member value that
  is not a string / invalid UTF-8 / trailing garbage → riti obtains no layout (`FixedMethod::new` panics);
* totality (`layoutOfFile_total`) and the extent of the one unmodelled thing (`layoutOfFile_supported_text`);
* `key_emits_file_text`: the C04 theorems with the `layout` parameter instantiated by the map read
  from the file.
-/
import RitiModel.Lemmas.JsonValue
import RitiModel.Lemmas.JsonValueTotal
import RitiModel.Lemmas.PhoneticStep
import RitiModel.Props.Json
import RitiModel.Props.C04
namespace Riti.Layout
open Riti Riti.Json Riti.JsonValue

/-! ### read-back -/

/-- **parse_print_ws**: a well-formed value (valid number lexemes, at most 127 nested containers)
    written with ANY JSON whitespace between its tokens, before it and after it, is read by
    `serde_json::from_str::<Value>` as exactly that value -/
theorem parse_print_ws (w : Deco) (hw : ∀ p k, AllWs (w p k)) (lead trail : List Char) (hl : AllWs lead) (ht : AllWs trail)
    (v : JVal) (hwf : v.wf) (hd : v.depth < depthLimit) :
    parseValue (lead ++ (printW w [] v ++ trail)) = .ok v := by
  rw [parseValue_printW hw hl hwf hd fun _ => numStop_ws trail ht, if_pos (skipWs_eq_nil_iff.2 ht)]

theorem compactDeco_ws : ∀ p k, AllWs (compactDeco p k) := fun _ _ => allWs_nil

theorem prettyDeco_ws (ind : Nat) : ∀ p k, AllWs (prettyDeco ind p k) := by
  have nl : ∀ n, AllWs ('\n' :: List.replicate n ' ') := by
    intro n c h
    rcases List.mem_cons.1 h with rfl | h
    · decide
    · cases List.eq_of_mem_replicate h; decide
  intro p k
  unfold prettyDeco
  split
  · exact nl _
  split
  · exact nl _
  split
  · intro c hc; cases List.mem_singleton.1 hc; decide
  · exact allWs_nil

/-- **parse_print**: the compact print of a well-formed value is read back as that value -/
theorem parse_print (v : JVal) (hwf : v.wf) (hd : v.depth < depthLimit) : parseValue (printValue v) = .ok v := by
  simpa [printValue] using parse_print_ws compactDeco compactDeco_ws [] [] allWs_nil allWs_nil v hwf hd

/-- **parse_printPretty**: the pretty print (`to_string_pretty`; any indentation width) of a
    well-formed value is read back as that value -/
theorem parse_printPretty (ind : Nat) (v : JVal) (hwf : v.wf) (hd : v.depth < depthLimit) :
    parseValue (printPretty ind v) = .ok v := by
  simpa [printPretty] using parse_print_ws (prettyDeco ind) (prettyDeco_ws ind) [] [] allWs_nil allWs_nil v hwf hd

/-- the same on the bytes of a file -/
theorem valueOfFile_print {w : Deco} (hw : ∀ p k, AllWs (w p k)) {lead trail : List Char} (hl : AllWs lead) (ht : AllWs trail)
    {v : JVal} (hwf : v.wf) (hd : v.depth < depthLimit) :
    valueOfFile (utf8Encode (lead ++ (printW w [] v ++ trail))) = .ok v := by
  simp only [valueOfFile, utf8Decode_encode]
  exact parse_print_ws w hw lead trail hl ht v hwf hd

/-! ### the layout of a printed document -/

/-- what riti obtains from a printed document, in terms of the value: `v["layout"]` read as a map of strings -/
theorem layoutOfFile_print {w : Deco} (hw : ∀ p k, AllWs (w p k)) {lead trail : List Char} (hl : AllWs lead) (ht : AllWs trail)
    {v : JVal} (hwf : v.wf) (hd : v.depth < depthLimit) :
    layoutOfFile (utf8Encode (lead ++ (printW w [] v ++ trail))) =
      match asStringMap (v.index layoutKey) with
      | none => .error .wrongShape
      | some m => .ok m := by
  simp only [layoutOfFile, valueOfFile_print hw hl ht hwf hd]
  cases asStringMap (v.index layoutKey) <;> rfl

/-- **layoutOfFile_spec**: take ANY document `{ …, "layout": {k₁:v₁,…}, … }` — members in any
    order, any other members (an `info` object, …) around, several `layout` members (the LAST one
    counts), written compactly, pretty or with any whitespace: riti obtains a layout `m` that
    gives every entry name the LAST value written for it (and nothing for a name not written) -/
theorem layoutOfFile_spec (w : Deco) (hw : ∀ p k, AllWs (w p k)) (lead trail : List Char) (hl : AllWs lead) (ht : AllWs trail)
    (ms : List (Str × JVal)) (lay : List (Str × Str)) (hwf : (JVal.obj ms).wf) (hd : (JVal.obj ms).depth < depthLimit)
    (hlast : lookupLast ms layoutKey = some (.obj (strMembers lay))) :
    ∃ m, layoutOfFile (utf8Encode (lead ++ (printW w [] (.obj ms) ++ trail))) = .ok m ∧
      (∀ k, alookup m k = lookupLast lay k) ∧
      (∀ k, layoutLookup m k = match lookupLast lay k with | some [] => none | x => x) := by
  refine ⟨dedup lay, ?_, fun k => alookup_dedup lay k, fun k => ?_⟩
  · rw [layoutOfFile_print hw hl ht hwf hd]
    simp only [JVal.index, hlast, Option.getD_some, asStringMap_strMembers]
  · simp only [layoutLookup, alookup_dedup lay k]
    cases lookupLast lay k with
    | none => rfl
    | some l => cases l <;> rfl

/-- the same for the canonical (compact) print of the document -/
theorem layoutOfFile_spec_compact (ms : List (Str × JVal)) (lay : List (Str × Str)) (hwf : (JVal.obj ms).wf)
    (hd : (JVal.obj ms).depth < depthLimit) (hlast : lookupLast ms layoutKey = some (.obj (strMembers lay))) :
    ∃ m, layoutOfFile (utf8Encode (printValue (.obj ms))) = .ok m ∧ ∀ k, alookup m k = lookupLast lay k := by
  obtain ⟨m, h1, h2, _⟩ := layoutOfFile_spec compactDeco compactDeco_ws [] [] allWs_nil allWs_nil ms lay hwf hd hlast
  exact ⟨m, by simpa [printValue] using h1, h2⟩

/-- conversely: whenever riti obtains a layout `m` from a printed document, the document is an
    object whose last `layout` member is an object, and `m` gives every name the last value
    written for it there, which is a string -/
theorem layoutOfFile_ok_inv (w : Deco) (hw : ∀ p k, AllWs (w p k)) (lead trail : List Char) (hl : AllWs lead) (ht : AllWs trail)
    (v : JVal) (hwf : v.wf) (hd : v.depth < depthLimit) (m : List (Str × Str))
    (h : layoutOfFile (utf8Encode (lead ++ (printW w [] v ++ trail))) = .ok m) :
    ∃ ms lms, v = .obj ms ∧ lookupLast ms layoutKey = some (.obj lms) ∧ ∀ k, lookupLast lms k = (alookup m k).map JVal.str := by
  rw [layoutOfFile_print hw hl ht hwf hd] at h
  cases v with
  | obj ms =>
    simp only [JVal.index] at h
    cases hl' : lookupLast ms layoutKey with
    | none => simp [hl', asStringMap] at h
    | some x =>
      simp only [hl', Option.getD_some] at h
      cases x with
      | obj lms =>
        cases hm : asStringMap (.obj lms) with
        | none => simp [hm] at h
        | some m' =>
          simp only [hm, Except.ok.injEq] at h
          subst h
          exact ⟨ms, lms, rfl, hl', asStringMap_obj_some hm⟩
      | _ => simp [asStringMap] at h
  | _ => simp [JVal.index, asStringMap] at h

/-! ### rejections (riti's steps give `None`; `FixedMethod::new` panics on its `unwrap`) -/

/-- a document that is not an object has no layout -/
theorem rejects_not_object (w : Deco) (hw : ∀ p k, AllWs (w p k)) (lead trail : List Char) (hl : AllWs lead) (ht : AllWs trail)
    (v : JVal) (hwf : v.wf) (hd : v.depth < depthLimit) (hno : ∀ ms, v ≠ .obj ms) :
    layoutOfFile (utf8Encode (lead ++ (printW w [] v ++ trail))) = .error .wrongShape := by
  rw [layoutOfFile_print hw hl ht hwf hd]
  cases v with
  | obj ms => exact absurd rfl (hno ms)
  | _ => simp [JVal.index, asStringMap]

/-- an object without a `layout` member has no layout -/
theorem rejects_missing_member (w : Deco) (hw : ∀ p k, AllWs (w p k)) (lead trail : List Char) (hl : AllWs lead) (ht : AllWs trail)
    (ms : List (Str × JVal)) (hwf : (JVal.obj ms).wf) (hd : (JVal.obj ms).depth < depthLimit)
    (hnone : lookupLast ms layoutKey = none) :
    layoutOfFile (utf8Encode (lead ++ (printW w [] (.obj ms) ++ trail))) = .error .wrongShape := by
  rw [layoutOfFile_print hw hl ht hwf hd]
  simp [JVal.index, hnone, asStringMap]

/-- a `layout` member (the last one) that is not an object — a string, a number, an array, `null` — is no layout -/
theorem rejects_layout_not_object (w : Deco) (hw : ∀ p k, AllWs (w p k)) (lead trail : List Char) (hl : AllWs lead) (ht : AllWs trail)
    (ms : List (Str × JVal)) (x : JVal) (hwf : (JVal.obj ms).wf) (hd : (JVal.obj ms).depth < depthLimit)
    (hlast : lookupLast ms layoutKey = some x) (hno : ∀ lms, x ≠ .obj lms) :
    layoutOfFile (utf8Encode (lead ++ (printW w [] (.obj ms) ++ trail))) = .error .wrongShape := by
  rw [layoutOfFile_print hw hl ht hwf hd]
  simp only [JVal.index, hlast, Option.getD_some]
  cases x with
  | obj lms => exact absurd rfl (hno lms)
  | _ => simp [asStringMap]

/-- a `layout` object in which the (last) value written for some name is not a string is no layout -/
theorem rejects_non_string_value (w : Deco) (hw : ∀ p k, AllWs (w p k)) (lead trail : List Char) (hl : AllWs lead) (ht : AllWs trail)
    (ms lms : List (Str × JVal)) (k : Str) (x : JVal) (hwf : (JVal.obj ms).wf) (hd : (JVal.obj ms).depth < depthLimit)
    (hlast : lookupLast ms layoutKey = some (.obj lms)) (hk : lookupLast lms k = some x) (hx : ∀ s, x ≠ .str s) :
    layoutOfFile (utf8Encode (lead ++ (printW w [] (.obj ms) ++ trail))) = .error .wrongShape := by
  rw [layoutOfFile_print hw hl ht hwf hd]
  simp only [JVal.index, hlast, Option.getD_some]
  cases hm : asStringMap (.obj lms) with
  | none => rfl
  | some m =>
    have := asStringMap_obj_some hm k
    rw [hk] at this
    obtain ⟨s, -, rfl⟩ := Option.map_eq_some_iff.1 this.symm
    exact absurd rfl (hx s)

/-- a file that is not valid UTF-8 is no layout (`read_to_string` fails) -/
theorem rejects_invalid_utf8 (b : List UInt8) (h : utf8Decode b = none) : layoutOfFile b = .error .notUtf8 := by
  simp [layoutOfFile, valueOfFile, h]

/-- … in particular every file that is not the UTF-8 encoding of any text -/
theorem rejects_not_an_encoding (b : List UInt8) (h : ∀ cs, b ≠ utf8Encode cs) : layoutOfFile b = .error .notUtf8 :=
  rejects_invalid_utf8 b ((utf8Decode_eq_none_iff b).mpr h)

/-- anything but whitespace after the document — `x`, a second value, a NUL, a BOM — is a syntax error -/
theorem rejects_trailing_garbage (w : Deco) (hw : ∀ p k, AllWs (w p k)) (lead g : List Char) (hl : AllWs lead)
    (ms : List (Str × JVal)) (hwf : (JVal.obj ms).wf) (hd : (JVal.obj ms).depth < depthLimit) (hg : skipWs g ≠ []) :
    layoutOfFile (utf8Encode (lead ++ (printW w [] (.obj ms) ++ g))) = .error .notJson := by
  simp only [layoutOfFile, valueOfFile, utf8Decode_encode]
  rw [parseValue_printW hw hl hwf hd nofun, if_neg hg]

/-! ### composition with C04: the layout parameter of the engine model is the map read from the file -/

/-- the `Layout` (entry name → value) of the engine model that a file map denotes -/
def fileLayout (m : List (Str × Str)) : Layout := fun name => alookup m name.toList

/-- `layout_get_value` is the model's `nonEmpty ∘ get` -/
theorem layoutLookup_eq (m : List (Str × Str)) (name : String) :
    layoutLookup m name.toList = nonEmpty (fileLayout m name) := by
  simp only [layoutLookup, nonEmpty, fileLayout]
  cases alookup m name.toList with
  | none => rfl
  | some l => cases l <;> rfl

/-- a world whose layout files are given by their BYTES (`files path`; `none` = no such file) and
    read by the model's own reader: a file riti cannot use gives no layout -/
def fileWorld (env : Env) (sorter : Sorter) (files : String → Option (List UInt8)) : World where
  env := env
  sorter := sorter
  layouts := fun p =>
    match files p with
    | none => none
    | some b =>
      match layoutOfFile b with
      | .ok m => some (fileLayout m)
      | .error _ => none

/-- the entry of the layout file that key `key` reads under modifier byte `mods`:
    `Key_<name>_AltGr` / `Key_<name>_Normal` by bit 1 of the modifier byte alone; the bare name for
    a number-pad key when the number-pad option is on; nothing for any other key code -/
def entryOf (key mods : Nat) (numpad : Bool) : Option String :=
  match lookupRow Spec.layoutRows key with
  | none => none
  | some (n, false) => some ("Key_" ++ n.str ++ "_" ++ (if (mods / 2) % 2 == 1 then "AltGr" else "Normal"))
  | some (n, true) => if numpad then some n.str else none

/-- the text the FILE assigns to a key press -/
def fileText (m : List (Str × Str)) (key mods : Nat) (numpad : Bool) : Option Str :=
  match entryOf key mods numpad with
  | none => none
  | some name => layoutLookup m name.toList

/-- `get_char_for_key` over a layout read from a file is the look-up of the key's entry in the file's map -/
theorem getCharForKey_file (m : List (Str × Str)) (key mods : Nat) (numpad : Bool) :
    getCharForKey (fileLayout m) key (getModifiers mods) numpad = fileText m key mods numpad := by
  rw [C04.get_char_spec]
  unfold fileText entryOf
  cases h : lookupRow Spec.layoutRows key with
  | none => rfl
  | some r =>
    obtain ⟨n, b⟩ := r
    cases b with
    | false => simp only [layoutLookup_eq]
    | true =>
      cases numpad with
      | false => rfl
      | true => simp only [layoutLookup_eq, if_true]

/-- a context over a layout file that riti can read exists and starts idle over the file's map;
    over a file riti cannot read, creation fails (the `unwrap` of `FixedMethod::new`) -/
theorem new_over_file (env : Env) (sorter : Sorter) (files : String → Option (List UInt8)) (fs : FS) (cfg : Cfg)
    (path : String) (b : List UInt8) (hp : isPhoneticPath path = false) (hf : files path = some b) :
    Ctx.new (fileWorld env sorter files) fs cfg path =
      match layoutOfFile b with
      | .ok m => some ⟨cfg, path, .fixed (fileLayout m) {}⟩
      | .error _ => none := by
  rw [ctxNew_not_phonetic _ fs cfg hp]
  simp only [fileWorld, hf]
  cases layoutOfFile b <;> rfl

/-- **key_emits_file_text**: create a context from a layout FILE with bytes `b` that riti can
    read (`layoutOfFile b = ok m`), all composition helpers off.  Pressing key `key` with modifier
    byte `mods` in the fresh context
    * changes nothing when the file assigns no text to the key (`fileText … = none`: unknown key
      code, entry absent or empty, number-pad key with the option off);
    * otherwise makes the text `v` the file assigns — `m.get(entry name).filter(non-empty)`, the
      entry name chosen by AltGr alone — the whole composition, nothing pending.
    At the strength of `C04.idle_key_appends_partial`: for values of one code point or not
    starting with a vowel sign (the full statement is false of the code: `C04.idle_value_cut`). -/
theorem key_emits_file_text (env : Env) (sorter : Sorter) (files : String → Option (List UInt8)) (fs : FS) (cfg : Cfg)
    (path : String) (b : List UInt8) (m : List (Str × Str))
    (hp : isPhoneticPath path = false) (hf : files path = some b) (hm : layoutOfFile b = .ok m) (hoff : C04.helpersOff cfg) :
    Ctx.new (fileWorld env sorter files) fs cfg path = some ⟨cfg, path, .fixed (fileLayout m) {}⟩ ∧
    ∀ key mods : Nat,
      (fileText m key mods cfg.fixedNumpad = none → fKeyState (fileLayout m) cfg {} key mods = none) ∧
      (∀ v, fileText m key mods cfg.fixedNumpad = some v → (v.length ≤ 1 ∨ ∀ c, v.head? = some c → isKar c = false) →
        ∃ s', fKeyState (fileLayout m) cfg {} key mods = some s' ∧ s'.buffer = v ∧ s'.pending = none) := by
  refine ⟨by rw [new_over_file env sorter files fs cfg path b hp hf, hm], fun key mods => ⟨fun hn => ?_, fun v hv hpart => ?_⟩⟩
  · rw [fKeyState_eq, getCharForKey_file, hn]; rfl
  · have hb := C04.idle_key_appends_partial cfg hoff ({} : FState) ⟨rfl, rfl⟩ v hpart
    rw [fKeyState_eq, getCharForKey_file, hv]
    exact ⟨_, rfl, hb.1, hb.2⟩

/-! ### totality, and the extent of the one thing that is not modelled -/

/-- **layoutOfFile_total**: the reader terminates on EVERY byte string (it is a structural
    recursion on a fuel argument) and the fuel it gives itself — input length + 1 — always
    suffices: the outcome is a layout, or one of `notUtf8`, `notJson`, `tooDeep`, `wrongShape`,
    `unsupportedNumber`; never "out of fuel" -/
theorem layoutOfFile_total (b : List UInt8) :
    (∃ m, layoutOfFile b = .ok m) ∨ layoutOfFile b = .error .notUtf8 ∨ layoutOfFile b = .error .notJson ∨
      layoutOfFile b = .error .tooDeep ∨ layoutOfFile b = .error .wrongShape ∨ layoutOfFile b = .error .unsupportedNumber := by
  cases h : layoutOfFile b with
  | ok m => exact .inl ⟨m, rfl⟩
  | error e =>
    cases e with
    | fuel => exact absurd h (layoutOfFile_ne_fuel b)
    | _ => simp

/-- the same for the document reader and the readers of the data files -/
theorem readers_total (t : List Char) (b : List UInt8) :
    parseValue t ≠ .error .fuel ∧ stringMapOfFile b ≠ .error .fuel ∧ tableOfFile b ≠ .error .fuel :=
  ⟨parseValue_ne_fuel t, stringMapOfFile_ne_fuel b, tableOfFile_ne_fuel b⟩

/-- **where `unsupportedNumber` comes from**: only from a number token — some suffix of the
    decoded text starts with a number that is well-formed but has more than 200 integer digits or
    more than 2 exponent digits (that is what `lexNumber … = unsupportedNumber` says) -/
theorem layoutOfFile_unsupported_origin (b : List UInt8) (h : layoutOfFile b = .error .unsupportedNumber) :
    ∃ t s, utf8Decode b = some t ∧ s <:+ t ∧ lexNumber s = .error .unsupportedNumber :=
  (layoutOfFile_error h).elim nofun fun hv => (valueOfFile_error hv).elim nofun fun ⟨t, hd, hp⟩ =>
    let ⟨s, hs, hl⟩ := parseValue_unsupported hp
    ⟨t, s, hd, hs, hl⟩

/-- **layoutOfFile_supported_text**: a document in which no three decimal digits stand in a row (so
    every exponent has at most 2 digits and every integer part at most 2 ≤ 200) is never answered
    `unsupportedNumber` — the model decides it.  (A coarse, purely textual sufficient condition;
    the exact origin is `layoutOfFile_unsupported_origin`.) -/
theorem layoutOfFile_supported_text (t : List Char) (h : noThreeDigits t) :
    layoutOfFile (utf8Encode t) ≠ .error .unsupportedNumber :=
  layoutOfFile_supported (utf8Decode_encode t) h

/-! ### the recursion limit, number shapes: kernel-evaluated facts -/

/-- 127 nested arrays are read … -/
theorem depth_127_accepted : errOf (parseValue (List.replicate 127 '[' ++ List.replicate 127 ']')) = none := by decide +kernel

/-- … the 128th is serde_json's `RecursionLimitExceeded` (`remaining_depth` 128, decremented before the test) -/
theorem depth_128_rejected : errOf (parseValue (List.replicate 128 '[' ++ List.replicate 128 ']')) = some .tooDeep := by decide +kernel

/-- number shapes: `-0`, `1.5e+10`, `0.0`, `1E5`, `2e-3` are numbers; `01`, `1.`, `.5`, `1e`, `-`, `1.e5`, `+1` are not;
    `1e999` (three exponent digits) is outside the modelled region -/
theorem number_shapes :
    (["-0", "1.5e+10", "0.0", "1E5", "2e-3", "0", "18446744073709551616"].map (fun s => errOf (parseValue s.toList))) = [none, none, none, none, none, none, none] ∧
    (["01", "1.", ".5", "1e", "-", "1.e5", "+1", "1e+", "--1", "1.5.3", "0x10", "NaN"].map (fun s => errOf (parseValue s.toList))) = List.replicate 12 (some .notJson) ∧
    (["1e999", "1e100", "[0e999]", "{\"a\":1E-400}"].map (fun s => errOf (parseValue s.toList))) = List.replicate 4 (some .unsupportedNumber) := by
  decide +kernel

/-! ### non-vacuity: a small pretty-printed layout file -/

/-- a layout document as `serde_json::to_string_pretty` writes it (2 spaces): `info` with numbers,
    nested objects, an array, the escape `\u09be` (া), a surrogate pair; a duplicate entry; an empty entry -/
def sampleText : List Char :=
  ("{\n  \"info\": {\n    \"version\": 2,\n    \"scale\": -1.5e+10,\n    \"layout\": {\n      \"name\": \"t\\u09be\\ud83d\\ude00\"\n    },\n" ++
   "    \"tags\": [\n      1,\n      true,\n      null,\n      []\n    ]\n  },\n  \"layout\": {\n    \"Key_a_Normal\": \"\\u0995\",\n    \"Key_a_AltGr\": \"\",\n" ++
   "    \"Key_a_Normal\": \"ক্ষ\",\n    \"Num1\": \"১\"\n  }\n}").toList

/-- the same document as a value -/
def sampleValue : JVal :=
  .obj [("info".toList, .obj [("version".toList, .num ['2']), ("scale".toList, .num "-1.5e+10".toList),
            ("layout".toList, .obj [("name".toList, .str ['t', 'া', '😀'])]),
            ("tags".toList, .arr [.num ['1'], .bool true, .null, .arr []])]),
        ("layout".toList, .obj (strMembers [("Key_a_Normal".toList, ['ক']), ("Key_a_AltGr".toList, []),
            ("Key_a_Normal".toList, ['ক', '্', 'ষ']), ("Num1".toList, ['১'])]))]

/-- riti's reading of the sample file: the later `Key_a_Normal` wins.  The three literals of `sampleText` are
    opened by `String.toList_ofList` (unification turns a literal into `String.ofList` of its characters); left to
    the kernel, `String.toList` of a long literal costs time quadratic in its length, forty times the JSON reading. -/
theorem sample_layout : layoutOfFile (utf8Encode sampleText) =
    .ok [("Key_a_Normal".toList, ['ক', '্', 'ষ']), ("Key_a_AltGr".toList, []), ("Num1".toList, ['১'])] := by
  unfold sampleText; simp only [String.toList_append]; repeat rw [String.toList_ofList]
  decide +kernel

example : layoutOfFile (utf8Encode sampleText) =
    .ok [("Key_a_Normal".toList, ['ক', '্', 'ষ']), ("Key_a_AltGr".toList, []), ("Num1".toList, ['১'])] := sample_layout

/-- … and what the keys then read: `a` gives the conjunct, AltGr+`a` nothing (empty entry), `b` nothing, keypad 1 its digit -/
example : (match layoutOfFile (utf8Encode sampleText) with
    | .ok m => [layoutLookup m "Key_a_Normal".toList, layoutLookup m "Key_a_AltGr".toList, layoutLookup m "Key_b_Normal".toList, layoutLookup m "Num1".toList]
    | .error _ => []) = [some ['ক', '্', 'ষ'], none, none, some ['১']] := by
  simp only [sample_layout]; decide +kernel

/-- the pretty printer of this file reproduces the text byte for byte (except that it writes the
    characters themselves where the text above uses `\u` escapes), and the sample value meets the
    hypotheses of `layoutOfFile_spec` / `parse_print_ws`: valid numbers, depth 3 -/
example : sampleValue.wf ∧ sampleValue.depth < depthLimit ∧
    lookupLast (match sampleValue with | .obj ms => ms | _ => []) layoutKey =
      some (.obj (strMembers [("Key_a_Normal".toList, ['ক']), ("Key_a_AltGr".toList, []), ("Key_a_Normal".toList, ['ক', '্', 'ষ']), ("Num1".toList, ['১'])])) := by
  refine ⟨?_, by decide, rfl⟩
  simp only [sampleValue, strMembers, List.map, JVal.wf, wfMembers, wfList, validNumber, and_true, true_and]
  decide +kernel

/-- the text read as a value and printed again by the model's pretty printer is the text printed from the sample value -/
example : (match parseValue sampleText with | .ok v => printPretty 2 v | .error _ => []) = printPretty 2 sampleValue := by
  -- the text is opened outside the `match`: under it the kernel would compare by evaluating both sides
  have h : (parseValue sampleText).map (printPretty 2) = .ok (printPretty 2 sampleValue) := by
    unfold sampleText; simp only [String.toList_append]; repeat rw [String.toList_ofList]
    decide +kernel
  generalize parseValue sampleText = r at h ⊢
  cases r with
  | error e => cases h
  | ok v => exact Except.ok.inj h

/-- hypotheses of `key_emits_file_text` met by the sample file: the context exists and key `a` (41110) composes the conjunct -/
example : ∃ m, layoutOfFile (utf8Encode sampleText) = .ok m ∧ fileText m 41110 0 false = some ['ক', '্', 'ষ'] ∧
    fileText m 41110 2 false = none ∧ fileText m 79 0 true = some ['১'] ∧ fileText m 79 0 false = none :=
  ⟨_, sample_layout, by decide +kernel, by decide +kernel, by decide +kernel, by decide +kernel⟩

end Riti.Layout
