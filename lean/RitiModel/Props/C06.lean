/-
Props/C06 — ending a word erases every trace of it; the session flag tells the truth.
This file holds the facts about single calls on a method's state.  Fixed method: commit, finish and
a backspace that returns the empty suggestion leave the three pieces of composition state (composed
text, raw keys, waiting sign) empty, the last under the invariant `Clean`; repeated backspaces end
the session.  Phonetic method: the composition is cleared and the flag is right.
That `Clean` holds of every context reached through the API, and that a context whose session is
over answers every continuation like a new one, is `Props/C06Fixed` for the fixed method and
`Props/C06Phonetic` for the phonetic one (where the memo and the learned selections survive the
word, and the comparison rests on the transparency theory of C05).
-/
import RitiModel.Lemmas.PhoneticStep
import RitiModel.Lemmas.FixedCore
namespace Riti.C06
open Riti Riti.Gen

/-! ### fixed method -/

/-- nothing of a word is left: composed text, raw keys, pending sign -/
def Idle (s : FState) : Prop := s.rbuf = [] ∧ s.rtyped = [] ∧ s.pending = none

/-- invariant: when nothing is being composed there are no raw keys either -/
def Clean (s : FState) : Prop := s.rbuf = [] → s.pending = none → s.rtyped = []

theorem fresh_clean : Clean {} := fun _ _ => rfl

/-- commit and finish clear the composed text, the raw keys and the pending sign -/
theorem clear_is_idle (s : FState) : Idle (fClear s) := ⟨rfl, rfl, rfl⟩

/-- the session flag is exactly "something is being composed" -/
theorem ongoing_iff (s : FState) : fOngoing s = false ↔ (s.rbuf = [] ∧ s.pending = none) := by
  rcases s with ⟨rbuf, rtyped, pending, sg⟩
  cases rbuf <;> cases pending <;> simp [fOngoing]

/-- **backspace that returns the empty suggestion ends the session and leaves nothing behind**
    (plain or ctrl, with or without a pending sign) — includes the clause repaired by `fix:` b5913e2 -/
theorem backspace_empty_is_idle (s : FState) (ctrl : Bool) (hc : Clean s)
    (h : (fBackspaceState s ctrl).2 = false) : Idle (fBackspaceState s ctrl).1 := by
  obtain ⟨-, hp, hf, ht, -⟩ := fBackspaceState_spec s ctrl
  -- the flag says that no text is left; the raw keys were dropped with the session, or there was none (`Clean`)
  refine ⟨by simpa [h] using hf, ?_, hp⟩
  rw [ht, h, if_neg Bool.false_ne_true]
  refine ite_ind (Q := (· = [])) (fun _ => rfl) fun ho => ?_
  obtain ⟨h1, h2⟩ := (ongoing_iff s).mp (by simpa using ho)
  exact hc h1 h2

/-- `Clean` is kept by backspace: if no text is left, the flag says so -/
theorem backspace_clean (s : FState) (ctrl : Bool) (hc : Clean s) : Clean (fBackspaceState s ctrl).1 := fun hr _ =>
  (backspace_empty_is_idle s ctrl hc (by rw [(fBackspaceState_spec s ctrl).2.2.1, hr]; rfl)).2.1

/-- ctrl-backspace on a non-empty composition ends the session in one step -/
theorem ctrl_backspace_clears (s : FState) (h : s.rbuf ≠ []) :
    Idle (fBackspaceState s true).1 ∧ (fBackspaceState s true).2 = false := by
  rw [fBackspaceState_ctrl h]
  exact ⟨clear_is_idle s, rfl⟩

/-- a backspace when idle returns the empty suggestion and starts nothing -/
theorem idle_backspace_inert (s : FState) (ctrl : Bool) (h : Idle s) :
    fBackspaceState s ctrl = (s, false) := by
  rcases s with ⟨rbuf, rtyped, pending, sg⟩
  obtain ⟨h1, h2, h3⟩ := h
  simp at h1 h2 h3
  subst h1 h2 h3
  cases ctrl <;> simp [fBackspaceState]

/-- size of what is being composed -/
def measure (s : FState) : Nat := s.rbuf.length + (if s.pending.isSome then 1 else 0)

theorem ongoing_iff_measure (s : FState) : fOngoing s = true ↔ 0 < measure s := by
  rcases s with ⟨rbuf, rtyped, pending, sg⟩
  cases rbuf <;> cases pending <;> simp [fOngoing, measure]

/-- a plain backspace takes one off the size: the waiting sign if there is one, else the last code point -/
theorem measure_backspace (s : FState) : measure (fBackspaceState s false).1 = measure s - 1 := by
  obtain ⟨hr, hp, -⟩ := fBackspaceState_spec s false
  rw [measure, hr, hp, measure]
  cases s.pending <;> simp

/-- every plain backspace on an ongoing session strictly shrinks the composition -/
theorem backspace_decreases (s : FState) (h : fOngoing s = true) :
    measure (fBackspaceState s false).1 < measure s := by
  have := (ongoing_iff_measure s).mp h
  rw [measure_backspace]; omega

def backspaces : Nat → FState → FState
  | 0, s => s
  | n + 1, s => backspaces n (fBackspaceState s false).1

/-- repeated backspaces always reach the idle state (after at most `measure s` of them) -/
theorem backspaces_reach_idle (n : Nat) (s : FState) (h : measure s ≤ n) :
    fOngoing (backspaces n s) = false := by
  induction n generalizing s with
  | zero => exact Bool.eq_false_iff.mpr fun ho => by have := (ongoing_iff_measure s).mp ho; omega
  | succ n ih => exact ih _ (by rw [measure_backspace]; omega)

/-- suggestions off: non-empty pre-edit text implies an ongoing session -/
theorem lonely_preedit_implies_ongoing (s : FState) (h : s.buffer ≠ []) : fOngoing s = true := by
  rcases s with ⟨rbuf, rtyped, pending, sg⟩
  cases rbuf with
  | nil => simp [FState.buffer] at h
  | cons c cs => simp [fOngoing]

/-! ### phonetic method -/

/-- commit clears the composition -/
theorem p_commit_clears (cfg : Cfg) (s s' : PState) (i : Nat) (w : Option Store)
    (h : pCommit cfg s i = .ok (s', w)) : pOngoing s' = false := by
  rw [(pCommit_ok h).1]; rfl

/-- finish clears the composition -/
theorem p_finish_clears (s : PState) : pOngoing (pFinish s) = false := by simp [pFinish, pOngoing]

/-- a backspace that returns the empty single suggestion *because the buffer became empty* ends
    the session; ctrl-backspace always does -/
theorem p_ctrl_backspace_clears (env : Env) (cfg : Cfg) (s : PState) :
    pOngoing (pBackspace env cfg s true).1 = false := by
  simp [pOngoing, pBackspace_buffer]

/-- a backspace when idle returns the empty suggestion and changes nothing -/
theorem p_idle_backspace_inert (env : Env) (cfg : Cfg) (s : PState) (ctrl : Bool) (h : s.buffer = []) :
    pBackspace env cfg s ctrl = (s, Sugg.empty) := by
  simp [pBackspace, h]

/-- repeated backspaces reach the idle state: every one shortens the buffer by one -/
theorem p_backspace_shortens (env : Env) (cfg : Cfg) (s : PState) :
    (pBackspace env cfg s false).1.buffer = s.buffer.dropLast := by
  simp [pBackspace_buffer]

/-- the full statement "an empty suggestion from backspace ⇒ no session" FAILS for the phonetic
    method with suggestions off (known finding): what is left of the composition can
    transliterate to the empty string.  Witness: buffer "`a", one backspace, with a `convert`
    that drops a lone back-tick (as okkhor does). -/
theorem p_empty_suggestion_but_ongoing :
    let env : Env := { convert := fun s => s.filter (· != '`'), dictPhonetic := fun _ => some [], suffix := fun _ => none,
                       autocorrect := fun _ => none, emoticon := fun _ => none, emojiByName := fun _ => none,
                       emojiBengali := fun _ => none, bijoy := fun s => .ok s, fixedTable := fun _ => [] }
    let r := pBackspace env {} { buffer := ['`', 'a'] } false
    r.2 = Sugg.empty ∧ pOngoing r.1 = true := by decide

/-- PARTIAL (phonetic): if the returned single suggestion is empty and `convert` maps only the
    empty text to the empty text on what is left, the session is over -/
theorem p_backspace_empty_partial (env : Env) (cfg : Cfg) (s : PState)
    (hcfg : cfg.phoneticSuggestion = false)
    (hconv : suggestOnlyPhonetic env s.buffer.dropLast = [] → s.buffer.dropLast = [])
    (h : (pBackspace env cfg s false).2.isEmpty = true) : pOngoing (pBackspace env cfg s false).1 = false := by
  by_cases hb : s.buffer = []
  · simp [pBackspace, hb, pOngoing]
  · by_cases hd : s.buffer.dropLast = []
    · simp [pBackspace, hb, hd, pOngoing]
    · exfalso
      apply hd
      apply hconv
      simpa [pBackspace, hb, hd, pCreateSuggestion, hcfg, Sugg.isEmpty] using h

end Riti.C06
