/-
Props/C19 — the C interface (src/ffi.rs): value- and protocol-level content.

Memory safety itself (validity of raw pointers, leaks in the Rust allocator) cannot be exhibited
by a Lean model; it is observed under valgrind / ASan.  What is proved here, over the handle
model of `Model/Ffi.lean`:

* `ffiStep_total` / `ffiRun_total` : every in-contract call sequence returns normally;
* `strings_equal_api` (+ per-operation lemmas) : the C string stored by a string-returning call is
  exactly the value of the Rust-API accessor; `scalars_equal_api` for the five scalar read-outs;
* `snapshot_independent` (+ `snapshot_step`, `_run`, `_strings_run`, `readout_after`, `snapshot_from_start`) : what is behind a
  suggestion / string handle never changes until that very handle is freed — whatever happens to the context;
* `accounting` : live = (initially live ∪ returned) − freed, after any sequence;
  `only_argument_freed`, `returned_fresh`, `string_free_null_noop` (and the three other frees),
  `full_cycle_leaves_nothing`;
* `returns_kind` : the ownership table — which of the 33 functions hand out a pointer, of which kind;
* `no_nul` (over `Lemmas/NoNul.lean`, `Lemmas/NoNulFixed.lean`) : the precondition of
  `CString::from_vec_unchecked` — no text handed to C contains U+0000 — for NUL-free data files, and
  `cView_eq_iff`, which says what goes wrong otherwise (C sees a truncated string);
  `no_nul_unconditional_false` : the hypothesis on the data cannot be dropped (a layout value
  `"x\u0000y"` reaches C cut to `x`);
* non-vacuity: a full life cycle by `decide` (read-outs after `riti_context_free`, empty heap at the end).
-/
import RitiModel.Lemmas.Ffi
import RitiModel.Lemmas.NoNulFixed
import RitiModel.Props.C01
namespace Riti.C19
open Riti

/-! ## the contract of the C interface -/

/-- `get_pre_edit_text` is in contract: index inside the list (list suggestions), and — under ANSI —
    the poriborton converter accepts the text (it panics on some code points: finding F14) -/
def PreEditOk (env : Env) : Sugg → Nat → Prop
  | .full _ l _ ansi, i => ∃ s, l[i]? = some s ∧ (ansi = true → ∃ r, env.bijoy s = .ok r)
  | .single s ansi, _ => ansi = true → ∃ r, env.bijoy s = .ok r

/-- `PreEditOk` says exactly that `get_pre_edit_text` returns normally -/
theorem preEditOk_iff {env : Env} {sg : Sugg} {i : Nat} : PreEditOk env sg i ↔ ∃ t, sg.getPreEdit env i = .ok t := by
  -- under ANSI the text is encoded, otherwise returned as it is
  have enc (s : Str) (a : Bool) :
      (a = true → ∃ r, env.bijoy s = .ok r) ↔ ∃ t, (if a then env.bijoy s else .ok s) = .ok t := by
    cases a <;> simp
  cases sg with
  | single s a => exact enc s a
  | full aux l sel a =>
    simp only [PreEditOk, Sugg.getPreEdit]
    cases l[i]? with
    | none => simp only [reduceCtorEq, false_and, exists_false]
    | some s => simpa only [Option.some.injEq, exists_eq_left'] using enc s a

/-- a call the documentation of riti.h allows in heap `hp`: live handles (NULL only for the four
    `*_free`), index inside the list, list accessors on list suggestions only, the single accessor
    on single ones, a layout that loads, `commit` in contract as in `C01.InContractEv` -/
def InContractFfi (w : World) (hp : Heap) : FfiOp → Prop
  | .configNew => True
  | .configSet h _ => ∃ c, alookup hp.configs h = some c
  | .configFree none => True
  | .configFree (some h) => ∃ c, alookup hp.configs h = some c
  | .contextNew ch => ∃ c, alookup hp.configs ch = some c ∧
      (isPhoneticPath c.2 = true ∨ (w.layouts c.2).isSome = true)
  | .contextFree none => True
  | .contextFree (some h) => ∃ c, alookup hp.contexts h = some c
  | .key h _ _ _ => ∃ c, alookup hp.contexts h = some c
  | .backspace h _ => ∃ c, alookup hp.contexts h = some c
  | .finish h => ∃ c, alookup hp.contexts h = some c
  | .ongoing h => ∃ c, alookup hp.contexts h = some c
  | .commit h i => ∃ c, alookup hp.contexts h = some c ∧ C01.InContractEv w c (.commit i)
  | .update h ch => ∃ c cfg, alookup hp.contexts h = some c ∧ alookup hp.configs ch = some cfg ∧
      C01.InContractEv w c (.update cfg.1 cfg.2)
  | .suggestionFree none => True
  | .suggestionFree (some h) => ∃ sg, alookup hp.suggestions h = some sg
  | .getSuggestion h i => ∃ aux l sel ansi, alookup hp.suggestions h = some (.full aux l sel ansi) ∧ i < l.length
  | .getLonely h => ∃ s ansi, alookup hp.suggestions h = some (.single s ansi)
  | .getAux h => ∃ aux l sel ansi, alookup hp.suggestions h = some (.full aux l sel ansi)
  | .prevIndex h => ∃ aux l sel ansi, alookup hp.suggestions h = some (.full aux l sel ansi)
  | .length h => ∃ aux l sel ansi, alookup hp.suggestions h = some (.full aux l sel ansi)
  | .getPreEdit h i => ∃ sg, alookup hp.suggestions h = some sg ∧ PreEditOk w.env sg i
  | .isLonely h => ∃ sg, alookup hp.suggestions h = some sg
  | .isEmpty h => ∃ sg, alookup hp.suggestions h = some sg
  | .stringFree none => True
  | .stringFree (some h) => ∃ s, alookup hp.strings h = some s

theorem ctxEvent_total {w : World} {hp : Heap} {fs : FS} {h : Nat} {ev : Event} {c : Ctx}
    (hc : alookup hp.contexts h = some c) (hev : C01.InContractEv w c ev) :
    ∃ r, ctxEvent w hp fs h ev = .ok r := by
  obtain ⟨⟨c', fs', o⟩, hs⟩ := C01.step_total w c fs ev hev
  unfold ctxEvent
  simp only [hc, hs]
  cases o <;> exact ⟨_, rfl⟩

/-- one in-contract call of the C interface returns normally, in every heap -/
theorem ffiStep_total (w : World) (hp : Heap) (fs : FS) (op : FfiOp) (h : InContractFfi w hp op) :
    ∃ r, ffiStep w hp fs op = .ok r := by
  cases op with
  | configNew => exact ⟨_, rfl⟩
  | configFree oh | contextFree oh | suggestionFree oh | stringFree oh =>
    cases oh with
    | none => exact ⟨_, rfl⟩
    | some h' => obtain ⟨c, hc⟩ := h; simp [ffiStep, hc]
  | configSet h' | ongoing h' | isLonely h' | isEmpty h' => obtain ⟨c, hc⟩ := h; simp [ffiStep, readVal, hc]
  | contextNew ch =>
    obtain ⟨c, hc, hl⟩ := h
    obtain ⟨ctx, hctx⟩ : ∃ ctx, Ctx.new w fs c.1 c.2 = some ctx :=
      Option.isSome_iff_exists.mp ((ctxNew_isSome w fs c.1 c.2).trans (Bool.or_eq_true_iff.2 hl))
    simp [ffiStep, hc, hctx]
  | key h' | backspace h' | finish h' => obtain ⟨c, hc⟩ := h; exact ctxEvent_total hc trivial
  | commit h' i => obtain ⟨c, hc, hev⟩ := h; exact ctxEvent_total hc hev
  | update h' ch =>
    obtain ⟨c, cfg, hc, hcfg, hev⟩ := h
    simp only [ffiStep, hcfg]
    exact ctxEvent_total hc hev
  | getSuggestion h' i =>
    obtain ⟨aux, l, sel, ansi, hc, hi⟩ := h
    have : l[i]? = some l[i] := by simp [hi]
    simp [ffiStep, readStr, hc, Sugg.getSuggestion, this]
  | getLonely h' => obtain ⟨s, ansi, hc⟩ := h; simp [ffiStep, readStr, hc, Sugg.getLonely]
  | getAux h' | prevIndex h' | length h' =>
    obtain ⟨aux, l, sel, ansi, hc⟩ := h
    simp [ffiStep, readStr, readVal, hc, Sugg.getAux, Sugg.prevIndex, Sugg.len, Except.map]
  | getPreEdit h' i =>
    obtain ⟨sg, hc, hok⟩ := h
    obtain ⟨t, ht⟩ := preEditOk_iff.1 hok
    simp [ffiStep, readStr, hc, ht]

/-- in-contract call sequences: every call is in contract in the heap it is made in -/
def InContractRun (w : World) : Heap → FS → List FfiOp → Prop
  | _, _, [] => True
  | hp, fs, op :: ops => InContractFfi w hp op ∧
      ∀ hp' fs' o, ffiStep w hp fs op = .ok (hp', fs', o) → InContractRun w hp' fs' ops

/-- every in-contract sequence of C calls returns normally (no panic, no dead handle) -/
theorem ffiRun_total (w : World) (hp : Heap) (fs : FS) (ops : List FfiOp) (h : InContractRun w hp fs ops) :
    ∃ r, ffiRun w hp fs ops = .ok r := by
  induction ops generalizing hp fs with
  | nil => exact ⟨_, rfl⟩
  | cons op ops ih =>
    obtain ⟨hop, hrest⟩ := h
    obtain ⟨⟨hp', fs', o⟩, hs⟩ := ffiStep_total w hp fs op hop
    obtain ⟨⟨hp'', fs'', os⟩, hr⟩ := ih hp' fs' (hrest hp' fs' o hs)
    exact ⟨(hp'', fs'', o :: os), by simp [ffiRun, hs, hr]⟩

/-! ## returned strings and scalars are the Rust-API values -/

/-- what a successful string-returning call did: it read the live suggestion `sg`, evaluated the
    Rust-API accessor `f` and stored exactly that value under the fresh string handle it returns;
    nothing else changed -/
def StoredApiValue (hp hp' : Heap) (fs fs' : FS) (o : FfiOut) (h : Nat) (f : Sugg → Res Str) : Prop :=
  ∃ sg s, alookup hp.suggestions h = some sg ∧ f sg = .ok s ∧ o = .handle .string hp.next ∧
    alookup hp'.strings hp.next = some s ∧ hp' = hp.allocStr s ∧ fs' = fs

/-- **strings_equal_api**: every string-returning call stores, under the handle it returns, exactly
    the value the corresponding accessor of the Rust API reports for the suggestion behind the
    handle — and conversely whenever the accessor reports a value the call succeeds with it -/
theorem strings_equal_api {w : World} {hp : Heap} {fs : FS} {op : FfiOp} {h : Nat} {f : Sugg → Res Str}
    (hop : apiAccessor w.env op = some (h, f)) :
    (∀ hp' fs' o, ffiStep w hp fs op = .ok (hp', fs', o) → StoredApiValue hp hp' fs fs' o h f) ∧
    (∀ sg s, alookup hp.suggestions h = some sg → f sg = .ok s →
      ffiStep w hp fs op = .ok (hp.allocStr s, fs, .handle .string hp.next)) := by
  have hop : ∀ hp fs, ffiStep w hp fs op = readStr hp fs h f := by
    cases op <;> simp only [apiAccessor, Option.some.injEq, Prod.mk.injEq, reduceCtorEq] at hop
    all_goals obtain ⟨rfl, rfl⟩ := hop; exact fun _ _ => rfl
  rw [hop]
  refine ⟨fun hp' fs' o hs => ?_, fun sg s hsg hf => by simp only [readStr, hsg, hf]⟩
  obtain ⟨sg, s, hsg, hf, hr⟩ := readStr_ok hs
  cases hr
  exact ⟨sg, s, hsg, hf, rfl, by simp [Heap.allocStr, alookup], rfl, rfl⟩

/-- `riti_suggestion_get_suggestion` hands C exactly `get_suggestions()[index]` -/
theorem getSuggestion_equal_api {w : World} {hp hp' : Heap} {fs fs' : FS} {h i : Nat} {o : FfiOut}
    (hs : ffiStep w hp fs (.getSuggestion h i) = .ok (hp', fs', o)) :
    StoredApiValue hp hp' fs fs' o h (fun sg => sg.getSuggestion i) := (strings_equal_api rfl).1 _ _ _ hs

/-- `riti_suggestion_get_lonely_suggestion` hands C exactly `get_lonely_suggestion()` -/
theorem getLonely_equal_api {w : World} {hp hp' : Heap} {fs fs' : FS} {h : Nat} {o : FfiOut}
    (hs : ffiStep w hp fs (.getLonely h) = .ok (hp', fs', o)) :
    StoredApiValue hp hp' fs fs' o h Sugg.getLonely := (strings_equal_api rfl).1 _ _ _ hs

/-- `riti_suggestion_get_auxiliary_text` hands C exactly `get_auxiliary_text()` -/
theorem getAux_equal_api {w : World} {hp hp' : Heap} {fs fs' : FS} {h : Nat} {o : FfiOut}
    (hs : ffiStep w hp fs (.getAux h) = .ok (hp', fs', o)) :
    StoredApiValue hp hp' fs fs' o h Sugg.getAux := (strings_equal_api rfl).1 _ _ _ hs

/-- `riti_suggestion_get_pre_edit_text` hands C exactly `get_pre_edit_text(index)` -/
theorem getPreEdit_equal_api {w : World} {hp hp' : Heap} {fs fs' : FS} {h i : Nat} {o : FfiOut}
    (hs : ffiStep w hp fs (.getPreEdit h i) = .ok (hp', fs', o)) :
    StoredApiValue hp hp' fs fs' o h (fun sg => sg.getPreEdit w.env i) := (strings_equal_api rfl).1 _ _ _ hs

/-- the five scalar read-outs return the Rust-API values and change nothing -/
theorem scalars_equal_api {w : World} {hp hp' : Heap} {fs fs' : FS} {h : Nat} {o : FfiOut} :
    (ffiStep w hp fs (.length h) = .ok (hp', fs', o) →
      hp' = hp ∧ fs' = fs ∧ ∃ sg n, alookup hp.suggestions h = some sg ∧ sg.len = .ok n ∧ o = .nat n) ∧
    (ffiStep w hp fs (.prevIndex h) = .ok (hp', fs', o) →
      hp' = hp ∧ fs' = fs ∧ ∃ sg n, alookup hp.suggestions h = some sg ∧ sg.prevIndex = .ok n ∧ o = .nat n) ∧
    (ffiStep w hp fs (.isLonely h) = .ok (hp', fs', o) →
      hp' = hp ∧ fs' = fs ∧ ∃ sg, alookup hp.suggestions h = some sg ∧ o = .bool sg.isLonely) ∧
    (ffiStep w hp fs (.isEmpty h) = .ok (hp', fs', o) →
      hp' = hp ∧ fs' = fs ∧ ∃ sg, alookup hp.suggestions h = some sg ∧ o = .bool sg.isEmpty) ∧
    (ffiStep w hp fs (.ongoing h) = .ok (hp', fs', o) →
      hp' = hp ∧ fs' = fs ∧ ∃ c, alookup hp.contexts h = some c ∧ o = .bool c.ongoing) := by
  -- the four read-outs through a suggestion handle are `readVal` of an accessor, wrapped as a number or a flag
  have nat {g : Sugg → Res Nat} (hs : readVal hp fs h (fun sg => (g sg).map .nat) = .ok (hp', fs', o)) :
      hp' = hp ∧ fs' = fs ∧ ∃ sg n, alookup hp.suggestions h = some sg ∧ g sg = .ok n ∧ o = .nat n := by
    obtain ⟨h1, h2, sg, hsg, hf⟩ := readVal_ok hs
    cases hg : g sg <;> rw [hg] at hf <;> cases hf
    exact ⟨h1, h2, sg, _, hsg, hg, rfl⟩
  have bool {g : Sugg → Bool} (hs : readVal hp fs h (fun sg => .ok (.bool (g sg))) = .ok (hp', fs', o)) :
      hp' = hp ∧ fs' = fs ∧ ∃ sg, alookup hp.suggestions h = some sg ∧ o = .bool (g sg) := by
    obtain ⟨h1, h2, sg, hsg, hf⟩ := readVal_ok hs
    cases hf; exact ⟨h1, h2, sg, hsg, rfl⟩
  refine ⟨nat, nat, bool, bool, fun hs => ?_⟩
  simp only [ffiStep] at hs
  split at hs
  · cases hs
  · rename_i c hc; cases hs; exact ⟨rfl, rfl, c, hc, rfl⟩

/-! ## snapshots: what is behind a handle does not change until that handle is freed -/

/-- the two tables of immutable values — suggestions and C strings — change in one call only by
    binding the fresh handle (above every live one in a well-formed heap) or dropping the handle freed -/
theorem snapshot_step {w : World} {hp hp' : Heap} {fs fs' : FS} {op : FfiOp} {o : FfiOut} (hwf : hp.WF)
    (hs : ffiStep w hp fs op = .ok (hp', fs', o)) :
    (∀ {h v}, op ≠ .suggestionFree (some h) → alookup hp.suggestions h = some v →
      alookup hp'.suggestions h = some v) ∧
    (∀ {h v}, op ≠ .stringFree (some h) → alookup hp.strings h = some v → alookup hp'.strings h = some v) := by
  cases ffiStep_shape hs with
  | noop | cfgNew | cfgSet | ctxNew | evUnit => exact ⟨fun _ hv => hv, fun _ hv => hv⟩
  | evSugg =>
    exact ⟨fun _ hv => alookup_cons_of_lt (hwf.live_lt (k := .suggestion) (mem_keys_of_alookup hv)) hv,
      fun _ hv => hv⟩
  | read =>
    exact ⟨fun _ hv => hv,
      fun _ hv => alookup_cons_of_lt (hwf.live_lt (k := .string) (mem_keys_of_alookup hv)) hv⟩
  | free k =>
    cases k
    · exact ⟨fun _ hv => hv, fun _ hv => hv⟩
    · exact ⟨fun _ hv => hv, fun _ hv => hv⟩
    · exact ⟨fun hne hv => alookup_aerase_of_ne (fun e => hne (e ▸ rfl)) hv, fun _ hv => hv⟩
    · exact ⟨fun _ hv => hv, fun hne hv => alookup_aerase_of_ne (fun e => hne (e ▸ rfl)) hv⟩

/-- **snapshot_independent** (one call): the value behind a live suggestion handle is unchanged by
    ANY call other than `riti_suggestion_free` of that very handle — further events on the context
    it came from, `riti_context_update_engine`, `riti_context_free` of that context, frees of other
    objects, read-outs …  (`hp.WF` holds of every heap reachable from program start: `wf_run`;
    see `snapshot_from_start`.) -/
theorem snapshot_independent {w : World} {hp hp' : Heap} {fs fs' : FS} {op : FfiOp} {o : FfiOut}
    {h : Nat} {v : Sugg} (hwf : hp.WF)
    (hs : ffiStep w hp fs op = .ok (hp', fs', o)) (hne : op ≠ .suggestionFree (some h))
    (hv : alookup hp.suggestions h = some v) : alookup hp'.suggestions h = some v :=
  (snapshot_step hwf hs).1 hne hv

/-- snapshots over any sequence of calls that does not free the suggestion handle -/
theorem snapshot_independent_run {w : World} {hp hp' : Heap} {fs fs' : FS} {ops : List FfiOp}
    {os : List FfiOut} {h : Nat} {v : Sugg} (hwf : hp.WF)
    (hr : ffiRun w hp fs ops = .ok (hp', fs', os)) (hne : ∀ op ∈ ops, op ≠ .suggestionFree (some h))
    (hv : alookup hp.suggestions h = some v) : alookup hp'.suggestions h = some v :=
  (ffiRun_induct (I := fun hp _ => hp.WF ∧ alookup hp.suggestions h = some v) hr ⟨hwf, hv⟩
    fun op hop hi hs => ⟨wf_step hs hi.1, (snapshot_step hi.1 hs).1 (hne op hop) hi.2⟩).2

/-- snapshots of C strings over any sequence of calls that does not free the string -/
theorem snapshot_independent_strings_run {w : World} {hp hp' : Heap} {fs fs' : FS} {ops : List FfiOp}
    {os : List FfiOut} {h : Nat} {v : Str} (hwf : hp.WF)
    (hr : ffiRun w hp fs ops = .ok (hp', fs', os)) (hne : ∀ op ∈ ops, op ≠ .stringFree (some h))
    (hv : alookup hp.strings h = some v) : alookup hp'.strings h = some v :=
  (ffiRun_induct (I := fun hp _ => hp.WF ∧ alookup hp.strings h = some v) hr ⟨hwf, hv⟩
    fun op hop hi hs => ⟨wf_step hs hi.1, (snapshot_step hi.1 hs).2 (hne op hop) hi.2⟩).2

/-- therefore every later read-out through a suggestion handle — after any number of further
    events on its context, after `riti_context_free`, after other frees — stores the value the
    Rust API reported for the suggestion when it was returned -/
theorem readout_after {w : World} {hp hp' hp'' : Heap} {fs fs' fs'' : FS} {ops : List FfiOp}
    {os : List FfiOut} {op : FfiOp} {o : FfiOut} {h : Nat} {f : Sugg → Res Str} {v : Sugg} (hwf : hp.WF)
    (hv : alookup hp.suggestions h = some v)
    (hr : ffiRun w hp fs ops = .ok (hp', fs', os)) (hne : ∀ op ∈ ops, op ≠ .suggestionFree (some h))
    (hop : apiAccessor w.env op = some (h, f))
    (hs : ffiStep w hp' fs' op = .ok (hp'', fs'', o)) :
    ∃ s, f v = .ok s ∧ o = .handle .string hp'.next ∧ alookup hp''.strings hp'.next = some s := by
  have hv' := snapshot_independent_run hwf hr hne hv
  obtain ⟨sg, s, hsg, hf, ho, hst, _, _⟩ := (strings_equal_api hop).1 hp'' fs'' o hs
  rw [hv'] at hsg
  cases hsg
  exact ⟨s, hf, ho, hst⟩

/-- snapshots from program start (well-formedness of every reachable heap is `wf_run`): whatever
    the history `ops₁` that produced the suggestion handle, and whatever calls `ops₂` follow that do
    not free it, the value behind it is the same -/
theorem snapshot_from_start {w : World} {hp hp' : Heap} {fs₀ fs fs' : FS} {ops₁ ops₂ : List FfiOp}
    {os₁ os₂ : List FfiOut} {h : Nat} {v : Sugg}
    (hr₁ : ffiRun w Heap.empty fs₀ ops₁ = .ok (hp, fs, os₁)) (hv : alookup hp.suggestions h = some v)
    (hr₂ : ffiRun w hp fs ops₂ = .ok (hp', fs', os₂)) (hne : ∀ op ∈ ops₂, op ≠ .suggestionFree (some h)) :
    alookup hp'.suggestions h = some v :=
  snapshot_independent_run (wf_run hr₁ Heap.wf_empty) hr₂ hne hv

/-- a minimal phonetic world (identity transliteration, empty tables) -/
def demoWorldPre : World :=
  { env := ⟨id, fun _ => some [], fun _ => none, fun _ => none, fun _ => none, fun _ => none, fun _ => none,
      fun s => .ok s, fun _ => []⟩,
    layouts := fun _ => none, sorter := id }

/-- the well-formedness hypothesis of `snapshot_independent` cannot be dropped: in a heap whose
    counter points AT a live handle (never reachable: `wf_run`) an allocation would shadow it -/
example : ∃ (hp hp' : Heap) (o : FfiOut) (v : Sugg), ¬ hp.WF ∧
    ffiStep demoWorldPre hp {} (.key 1 41110 0 0) = .ok (hp', {}, o) ∧
    alookup hp.suggestions 0 = some v ∧ alookup hp'.suggestions 0 ≠ some v := by
  refine ⟨{ contexts := [(1, ⟨{}, "avro_phonetic", .phonetic {}⟩)], suggestions := [(0, .single ['z'] false)], next := 0 },
    _, _, .single ['z'] false, ?_, rfl, rfl, by decide⟩
  intro hwf
  have := hwf.lt 0 (by simp [Heap.all])
  simp at this

/-! ## accounting -/

/-- **string_free_null_noop**: `riti_string_free(NULL)` changes nothing -/
theorem string_free_null_noop (w : World) (hp : Heap) (fs : FS) :
    ffiStep w hp fs (.stringFree none) = .ok (hp, fs, .unit) := rfl

/-- so do the three other `*_free(NULL)` (`riti_free` checks `is_null`) -/
theorem free_null_noop (w : World) (hp : Heap) (fs : FS) :
    ffiStep w hp fs (.configFree none) = .ok (hp, fs, .unit) ∧
    ffiStep w hp fs (.contextFree none) = .ok (hp, fs, .unit) ∧
    ffiStep w hp fs (.suggestionFree none) = .ok (hp, fs, .unit) := ⟨rfl, rfl, rfl⟩

/-- no call ends the life of an object other than the one it is asked to free -/
theorem only_argument_freed {w : World} {hp hp' : Heap} {fs fs' : FS} {op : FfiOp} {o : FfiOut}
    (hs : ffiStep w hp fs op = .ok (hp', fs', o)) {k : Kind} {x : Nat} (hx : x ∈ hp.live k)
    (hne : op.frees k ≠ some x) : x ∈ hp'.live k :=
  (stepSpec hs).mem_live.mpr (Or.inr ⟨hx, hne⟩)

/-- a freed handle is dead: a second free, or any use, is an error (no silent reuse) -/
theorem freed_is_dead {w : World} {hp hp' : Heap} {fs fs' : FS} {op : FfiOp} {o : FfiOut}
    (hs : ffiStep w hp fs op = .ok (hp', fs', o)) {k : Kind} {x : Nat} (hf : op.frees k = some x) :
    x ∉ hp'.live k := by
  intro hx
  have sp := stepSpec hs
  rcases sp.mem_live.mp hx with h | ⟨_, h⟩
  · cases (sp.excl k x hf).symm.trans h
  · exact h hf

/-- a returned handle is fresh: it is the allocation counter, above every handle ever live — so a
    freed handle is never issued again and two returned pointers never alias -/
theorem returned_fresh {w : World} {hp hp' : Heap} {fs fs' : FS} {op : FfiOp} {o : FfiOut} (hwf : hp.WF)
    (hs : ffiStep w hp fs op = .ok (hp', fs', o)) {k : Kind} {x : Nat} (ho : o = .handle k x) :
    x = hp.next ∧ hp'.next = x + 1 ∧ (∀ k', x ∉ hp.live k') ∧ x ∈ hp'.live k := by
  have sp := stepSpec hs
  have hx := sp.fresh k x ho
  refine ⟨hx, ?_, ?_, ?_⟩
  · rw [sp.next, ho, hx]; rfl
  · intro k' hm
    have := hwf.live_lt hm
    omega
  · exact sp.mem_live.mpr (.inl ho)

/-- the handles of kind `k` returned by a sequence of calls -/
def returnedAll (os : List FfiOut) (k : Kind) : List Nat := os.flatMap (·.returned k)

/-- the (non-NULL) handles of kind `k` a sequence of calls frees -/
def freedAll (ops : List FfiOp) (k : Kind) : List Nat := ops.filterMap (·.frees k)

theorem mem_returnedAll_cons {o : FfiOut} {os : List FfiOut} {k : Kind} {x : Nat} :
    x ∈ returnedAll (o :: os) k ↔ o = .handle k x ∨ x ∈ returnedAll os k := by
  rw [returnedAll, List.flatMap_cons, List.mem_append, FfiOut.mem_returned]; rfl

theorem mem_freedAll_cons {op : FfiOp} {ops : List FfiOp} {k : Kind} {x : Nat} :
    x ∈ freedAll (op :: ops) k ↔ op.frees k = some x ∨ x ∈ freedAll ops k := by
  rw [freedAll, List.filterMap_cons]
  cases op.frees k <;> simp [freedAll, eq_comm]

/-- a handle returned by a sequence of calls is at or above the counter it started from -/
theorem returnedAll_ge {w : World} {hp hp' : Heap} {fs fs' : FS} {ops : List FfiOp} {os : List FfiOut}
    (hr : ffiRun w hp fs ops = .ok (hp', fs', os)) {k : Kind} {x : Nat} (hx : x ∈ returnedAll os k) :
    hp.next ≤ x := by
  induction ops generalizing hp fs os with
  | nil => cases hr; simp [returnedAll] at hx
  | cons op ops ih =>
    obtain ⟨hp1, fs1, o, os1, hs, hr1, rfl⟩ := ffiRun_cons hr
    have sp := stepSpec hs
    rcases mem_returnedAll_cons.mp hx with ho | hx
    · exact Nat.le_of_eq (sp.fresh k x ho).symm
    · exact Nat.le_trans sp.next_le (ih hr1 hx)

/-- **accounting**: after any successful sequence of calls, the live objects of each kind are
    exactly those that were live before or were returned by a call of the sequence, and that no
    call of the sequence freed: live = (initial ∪ returned) − freed -/
theorem accounting {w : World} {hp hp' : Heap} {fs fs' : FS} {ops : List FfiOp} {os : List FfiOut}
    (hwf : hp.WF) (hr : ffiRun w hp fs ops = .ok (hp', fs', os)) (k : Kind) (x : Nat) :
    x ∈ hp'.live k ↔ (x ∈ hp.live k ∨ x ∈ returnedAll os k) ∧ x ∉ freedAll ops k := by
  induction ops generalizing hp fs os with
  | nil => cases hr; simp [returnedAll, freedAll]
  | cons op ops ih =>
    obtain ⟨hp1, fs1, o, os1, hs, hr1, rfl⟩ := ffiRun_cons hr
    have sp := stepSpec hs
    rw [ih (sp.wf hwf) hr1, sp.mem_live, mem_returnedAll_cons, mem_freedAll_cons]
    -- the handle a call frees was live below the counter: it is neither the one the call returns
    -- nor one returned later
    by_cases hf : op.frees k = some x
    · have h1 : o ≠ .handle k x := fun ho => by cases (sp.excl k x hf).symm.trans ho
      have h2 : x ∉ returnedAll os1 k := fun hl => by
        have := returnedAll_ge hr1 hl
        have := hwf.live_lt (sp.freesLive k x hf)
        have := sp.next_le
        omega
      simp [hf, h1, h2]
    · simp [hf, or_assoc, or_left_comm]

/-- accounting from program start: live = returned − freed -/
theorem accounting_from_start {w : World} {hp' : Heap} {fs fs' : FS} {ops : List FfiOp} {os : List FfiOut}
    (hr : ffiRun w Heap.empty fs ops = .ok (hp', fs', os)) (k : Kind) (x : Nat) :
    x ∈ hp'.live k ↔ x ∈ returnedAll os k ∧ x ∉ freedAll ops k := by
  rw [accounting Heap.wf_empty hr, Heap.live_empty]
  simp

/-- every live object was returned by an earlier call and not yet freed -/
theorem live_was_returned {w : World} {hp' : Heap} {fs fs' : FS} {ops : List FfiOp} {os : List FfiOut}
    (hr : ffiRun w Heap.empty fs ops = .ok (hp', fs', os)) {k : Kind} {x : Nat} (hx : x ∈ hp'.live k) :
    x ∈ returnedAll os k ∧ x ∉ freedAll ops k := (accounting_from_start hr k x).mp hx

/-- **full_cycle_leaves_nothing**: a complete life cycle — every pointer the library returned is
    handed to its free function (once: a second free is an error) — ends with nothing live -/
theorem full_cycle_leaves_nothing {w : World} {hp' : Heap} {fs fs' : FS} {ops : List FfiOp} {os : List FfiOut}
    (hr : ffiRun w Heap.empty fs ops = .ok (hp', fs', os))
    (hall : ∀ k x, x ∈ returnedAll os k → x ∈ freedAll ops k) : hp'.isEmpty = true :=
  Heap.isEmpty_iff.2 fun k => List.eq_nil_iff_forall_not_mem.2 fun x hx =>
    (live_was_returned hr hx).2 (hall k x (live_was_returned hr hx).1)

/-- conversely a pointer that was returned and never freed is still live at the end: a leak is
    visible in the model as a non-empty heap -/
theorem unfreed_is_live {w : World} {hp' : Heap} {fs fs' : FS} {ops : List FfiOp} {os : List FfiOut}
    (hr : ffiRun w Heap.empty fs ops = .ok (hp', fs', os)) {k : Kind} {x : Nat}
    (hx : x ∈ returnedAll os k) (hnf : x ∉ freedAll ops k) : x ∈ hp'.live k :=
  (accounting_from_start hr k x).mpr ⟨hx, hnf⟩

/-! ## ownership table of the 33 exported functions -/

/-- **ownership**: a successful call returns a fresh pointer exactly when `allocates` says so, and
    of that kind (so the caller knows which free function it owes); all other calls return a
    scalar or nothing -/
theorem returns_kind {w : World} {hp hp' : Heap} {fs fs' : FS} {op : FfiOp} {o : FfiOut}
    (hs : ffiStep w hp fs op = .ok (hp', fs', o)) :
    match allocates op with
    | some k => o = .handle k hp.next
    | none => o.isHandle = false := by
  cases ffiStep_shape hs with
  | noop _ hal ho => rw [hal]; exact ho
  | cfgNew | ctxNew => rfl
  | cfgSet st => exact st.apply_isHandle _
  | evUnit _ hal => rw [hal]; rfl
  | evSugg _ hal | read _ hal => rw [hal]
  | free k => cases k <;> rfl

/-! ## no_nul: the precondition of `CString::from_vec_unchecked`

Covered (`Lemmas/NoNul.lean`, `Lemmas/NoNulFixed.lean`; the candidate lists as the instance `c ≠ U+0000` of
`Lemmas/Provenance.lean`): `keycodeToChar`, `okConvert` (the model of okkhor's parser, over the generated pattern table), `split`,
`smartQuoter`, `preparedParts`, `computeEntry`, `memoFill`, `joinChecked`, `addSuffix`, `wrapAll`,
`dictList`, `emojiStage`, `addExtras`, `suggestList` (through `sortStable`), `suggestOnlyPhonetic`,
`pCreateSuggestion`, `pKey`, `pBackspace`, `pCommit`, `pFinish`, `pNew`, `pUpdate`;
`pkvBody`/`processKeyValue` (all branches, incl. `karTail`, `insertOldStyleReph`), `getCharForKey`,
`fKeyState`, `fBackspaceState`, `fClear`, `fixedParts`, `fixedHits` (`tradKarWord`), `dedupAdjacent`,
`fixedBase`, `fixedEmoji`, `fixedCands`, `fDictSuggestion` (ANY permuting sorter), `fLonely`,
`fCreateSuggestion`, `fCurrentSuggestion`, `fKey`, `fBackspace`; `mNew`, `Ctx.new`, every `Event` of
`step`; the four string accessors incl. the ANSI pre-edit text (under the `bij` clause of `NoNulEnv`).
-/

/-- the value an accessor of `apiAccessor` reports for a NUL-free suggestion is NUL-free -/
theorem accessor_noNul {env : Env} (he : NoNulEnv env) {op : FfiOp} {h : Nat} {f : Sugg → Res Str}
    (hop : apiAccessor env op = some (h, f)) {sg : Sugg} (hsg : NoNulSugg sg) {s : Str} (hs : f sg = .ok s) :
    NoNul s := by
  -- the pre-edit text is the owned text itself or, under ANSI, its encoding (`NoNulEnv.bij`)
  have enc {t : Str} {a : Bool} (ht : NoNul t) (h : (if a then env.bijoy t else .ok t) = .ok s) : NoNul s := by
    cases a
    · cases h; exact ht
    · exact he.bij _ _ ht h
  cases op <;> simp only [apiAccessor, Option.some.injEq, Prod.mk.injEq, reduceCtorEq] at hop
  all_goals obtain ⟨rfl, rfl⟩ := hop
  · cases sg with
    | single t a => cases hs
    | full aux l sel a =>
      simp only [Sugg.getSuggestion] at hs
      split at hs <;> cases hs
      exact hsg.2 _ (List.mem_of_getElem? ‹_›)
  · cases sg <;> cases hs
    exact hsg
  · cases sg <;> cases hs
    exact hsg.1
  · cases sg with
    | single t a => exact enc hsg hs
    | full aux l sel a =>
      simp only [Sugg.getPreEdit] at hs
      split at hs
      · exact enc (hsg.2 _ (List.mem_of_getElem? ‹_›)) hs
      · cases hs

/-- the NUL-freedom invariant of the handle table: every live context satisfies its method's
    invariant, every text owned by a live suggestion and every live C string is NUL-free -/
structure HeapNoNul (hp : Heap) : Prop where
  contexts : ∀ h c, alookup hp.contexts h = some c → NoNulCtx c
  suggestions : ∀ h sg, alookup hp.suggestions h = some sg → NoNulSugg sg
  strings : ∀ h s, alookup hp.strings h = some s → NoNul s

theorem heapNoNul_empty : HeapNoNul Heap.empty where
  contexts _ _ h := by cases h
  suggestions _ _ h := by cases h
  strings _ _ h := by cases h

/-- one call of the C interface keeps the handle table NUL-free -/
theorem ffiStep_noNul {w : World} (hw : NoNulWorld w) {hp hp' : Heap} {fs fs' : FS} {op : FfiOp} {o : FfiOut}
    (hh : HeapNoNul hp) (hfs : NoNulFS fs) (hs : ffiStep w hp fs op = .ok (hp', fs', o)) :
    HeapNoNul hp' ∧ NoNulFS fs' := by
  cases ffiStep_shape hs with
  | noop => exact ⟨hh, hfs⟩
  | cfgNew | cfgSet => exact ⟨⟨hh.contexts, hh.suggestions, hh.strings⟩, hfs⟩
  | ctxNew _ hn =>
    exact ⟨⟨forall_alookup_cons hh.contexts (ctxNew_noNul hw hfs hn), hh.suggestions, hh.strings⟩, hfs⟩
  | evUnit _ _ hev hc hst =>
    obtain ⟨h1, h2, _⟩ := step_noNul hw (hh.contexts _ _ hc) hfs (fun fs2 he => absurd he (hev fs2)) hst
    exact ⟨⟨forall_alookup_ainsert hh.contexts h1, hh.suggestions, hh.strings⟩, h2⟩
  | evSugg _ _ hev hc hst =>
    obtain ⟨h1, h2, h3⟩ := step_noNul hw (hh.contexts _ _ hc) hfs (fun fs2 he => absurd he (hev fs2)) hst
    exact ⟨⟨forall_alookup_ainsert hh.contexts h1, forall_alookup_cons hh.suggestions (h3 _ rfl), hh.strings⟩, h2⟩
  | read _ _ ha hsg hf =>
    exact ⟨⟨hh.contexts, hh.suggestions,
      forall_alookup_cons hh.strings (accessor_noNul hw.env ha (hh.suggestions _ _ hsg) hf)⟩, hfs⟩
  | free k =>
    cases k
    · exact ⟨⟨hh.contexts, hh.suggestions, hh.strings⟩, hfs⟩
    · exact ⟨⟨forall_alookup_aerase hh.contexts, hh.suggestions, hh.strings⟩, hfs⟩
    · exact ⟨⟨hh.contexts, forall_alookup_aerase hh.suggestions, hh.strings⟩, hfs⟩
    · exact ⟨⟨hh.contexts, hh.suggestions, forall_alookup_aerase hh.strings⟩, hfs⟩

theorem ffiRun_noNul {w : World} (hw : NoNulWorld w) {hp hp' : Heap} {fs fs' : FS} {ops : List FfiOp}
    {os : List FfiOut} (hh : HeapNoNul hp) (hfs : NoNulFS fs) (hr : ffiRun w hp fs ops = .ok (hp', fs', os)) :
    HeapNoNul hp' ∧ NoNulFS fs' :=
  ffiRun_induct (I := fun hp fs => HeapNoNul hp ∧ NoNulFS fs) hr ⟨hh, hfs⟩
    fun _ _ hi hs => ffiStep_noNul hw hi.1 hi.2 hs

/-- **no_nul**: in a world whose data is NUL-free (`NoNulWorld`: tables, dictionary, emoji, layout
    values; converters preserving NUL-freedom; a permuting sorter) and with NUL-free user
    auto-correct values, after ANY sequence of calls from program start every string the library has
    handed to C and every text owned by a live suggestion is NUL-free — the precondition of
    `CString::from_vec_unchecked` holds at each of the four call sites, so C sees the whole text
    (`cView s = s`) -/
theorem no_nul {w : World} (hw : NoNulWorld w) {hp' : Heap} {fs fs' : FS} {ops : List FfiOp} {os : List FfiOut}
    (hfs : NoNulFS fs) (hr : ffiRun w Heap.empty fs ops = .ok (hp', fs', os)) :
    (∀ h s, alookup hp'.strings h = some s → NoNul s ∧ cView s = s) ∧
    (∀ h sg, alookup hp'.suggestions h = some sg → NoNulSugg sg) := by
  obtain ⟨hh, _⟩ := ffiRun_noNul hw heapNoNul_empty hfs hr
  exact ⟨fun h s hs => ⟨hh.strings h s hs, (cView_eq_iff s).mpr (hh.strings h s hs)⟩, hh.suggestions⟩

/-- `no_nul` under the house name for a restricted statement.  Excluded: worlds whose data files
    carry U+0000 (a table / dictionary / emoji / layout value, a converter that introduces one, a user
    auto-correct value) — there the statement is false (`no_nul_unconditional_false`), because the
    library hands such text to `CString::from_vec_unchecked` without looking. -/
theorem no_nul_partial {w : World} (hw : NoNulWorld w) {hp' : Heap} {fs fs' : FS} {ops : List FfiOp}
    {os : List FfiOut} (hfs : NoNulFS fs) (hr : ffiRun w Heap.empty fs ops = .ok (hp', fs', os)) :
    (∀ h s, alookup hp'.strings h = some s → NoNul s ∧ cView s = s) ∧
    (∀ h sg, alookup hp'.suggestions h = some sg → NoNulSugg sg) := no_nul hw hfs hr

/-- the same, stated at the call: a string-returning call made after any history returns a pointer
    to exactly the Rust-API value, NUL-free, hence seen in full by C -/
theorem returned_string_faithful {w : World} (hw : NoNulWorld w) {hp' hp'' : Heap} {fs fs' fs'' : FS}
    {ops : List FfiOp} {os : List FfiOut} {op : FfiOp} {o : FfiOut} {h : Nat} {f : Sugg → Res Str}
    (hfs : NoNulFS fs) (hr : ffiRun w Heap.empty fs ops = .ok (hp', fs', os))
    (hop : apiAccessor w.env op = some (h, f)) (hs : ffiStep w hp' fs' op = .ok (hp'', fs'', o)) :
    ∃ sg s, alookup hp'.suggestions h = some sg ∧ f sg = .ok s ∧ o = .handle .string hp'.next ∧
      alookup hp''.strings hp'.next = some s ∧ NoNul s ∧ cView s = s := by
  obtain ⟨hh, _⟩ := ffiRun_noNul hw heapNoNul_empty hfs hr
  obtain ⟨sg, s, hsg, hf, ho, hst, _, _⟩ := (strings_equal_api hop).1 hp'' fs'' o hs
  have hn := accessor_noNul hw.env hop (hh.suggestions h sg hsg) hf
  exact ⟨sg, s, hsg, hf, ho, hst, hn, (cView_eq_iff s).mpr hn⟩

/-- why the precondition matters: a text WITH a NUL is cut short on the C side -/
example : cView ['a', '\x00', 'b'] = ['a'] := by decide

/-! ## the unconditional statement is false: NUL-freedom depends on the data files -/

/-- a fixed-layout world whose layout file maps every key to the value `x␀y` (a JSON file can
    say `"x\u0000y"`; serde_json accepts it) -/
def nulWorld : World :=
  { demoWorldPre with layouts := fun _ => some (fun _ => some ['x', '\x00', 'y']) }

def nulOps : List FfiOp :=
  [.configNew, .configSet 0 (.layoutFile "l.json" true), .contextNew 0, .key 1 41110 0 0, .getLonely 2]

/-- **negation of the unconditional `no_nul`**: without the hypothesis on the data, a returned string
    can contain U+0000 — here a layout value does — and C then sees a text cut at the NUL (`x`
    instead of `x␀y`).  The library passes such text to `CString::from_vec_unchecked` unchecked. -/
theorem no_nul_unconditional_false :
    ∃ (w : World) (ops : List FfiOp) (hp' : Heap) (fs' : FS) (os : List FfiOut) (h : Nat) (s : Str),
      ffiRun w Heap.empty {} ops = .ok (hp', fs', os) ∧ alookup hp'.strings h = some s ∧
      ¬ NoNul s ∧ cView s ≠ s := by
  have hrun : (match ffiRun nulWorld Heap.empty {} nulOps with
      | .ok (hp, _, _) => alookup hp.strings 3 == some ['x', '\x00', 'y']
      | .error _ => false) = true := by decide +kernel
  split at hrun
  · next hp' fs' os hr =>
    exact ⟨nulWorld, nulOps, hp', fs', os, 3, _, hr, eq_of_beq hrun, by simp [NoNul], by decide⟩
  · cases hrun

/-! ## non-vacuity -/

/-- a phonetic world: the model of okkhor's parser as `convert`, empty tables -/
def demoWorld : World :=
  { env := ⟨okConvert, fun _ => some [], fun _ => none, fun _ => none, fun _ => none, fun _ => none,
      fun _ => none, fun s => .ok s, fun _ => []⟩,
    layouts := fun _ => none,
    sorter := sortStable }

/-- the hypotheses of `no_nul` are satisfiable: the demo world is NUL-free -/
theorem demoWorld_noNul : NoNulWorld demoWorld where
  env := {
    conv := fun _ h => okConvert_noNul h
    dict := by intro w l h s hs; cases h; cases hs
    sfx := by intro k v h; cases h
    ac := by intro k v h; cases h
    emo := by intro k v h; cases h
    emoName := by intro k l h; cases h
    emoBn := by intro k l h; cases h
    bij := by intro s r hs h; cases h; exact hs
    table := by intro t s hs; cases hs }
  layouts := by intro p l h; cases h
  sorter := sortStable_perm

/-- config → two setters → context → keys `a`, `m` → `riti_context_free` → read-outs through the two
    suggestion handles → `riti_string_free(NULL)` → every pointer freed -/
def demoOps : List FfiOp := [
  .configNew, .configSet 0 (.layoutFile "avro_phonetic" false), .configSet 0 (.phoneticSuggestion true),
  .contextNew 0, .key 1 41110 0 0, .key 1 41122 0 0, .ongoing 1, .contextFree (some 1),
  .getSuggestion 3 0, .getAux 3, .length 3, .getPreEdit 2 0, .isLonely 2,
  .stringFree none, .stringFree (some 4), .stringFree (some 5), .stringFree (some 6),
  .suggestionFree (some 2), .suggestionFree (some 3), .configFree (some 0)]

/-- after the first 13 calls: the context is gone, yet the read-outs through the suggestion handles
    it produced gave `আম` (candidate 0 of `am`), `am` (auxiliary text), length 1, `আ` (pre-edit text
    of the older suggestion); three strings, two suggestions and the config are live -/
example : (match ffiRun demoWorld Heap.empty {} (demoOps.take 13) with
    | .ok (hp, _, os) =>
      hp.strings == [(6, [Char.ofNat 2438]), (5, ['a', 'm']), (4, [Char.ofNat 2438, Char.ofNat 2478])] &&
      hp.live .context == [] && hp.live .suggestion == [3, 2] && hp.live .config == [0] &&
      os.drop 8 == [.handle .string 4, .handle .string 5, .nat 1, .handle .string 6, .bool false]
    | .error _ => false) = true := by decide +kernel

/-- the full life cycle ends with an empty heap -/
example : (match ffiRun demoWorld Heap.empty {} demoOps with
    | .ok (hp, _, _) => hp.isEmpty
    | .error _ => false) = true := by decide +kernel

/-- leaving out the last free leaves exactly the config live: a leak shows as a non-empty heap -/
example : (match ffiRun demoWorld Heap.empty {} demoOps.dropLast with
    | .ok (hp, _, _) => !hp.isEmpty && hp.live .config == [0]
    | .error _ => false) = true := by decide +kernel

/-- a double free, a read-out through a freed suggestion, an event on a freed context and a
    list accessor on a single suggestion are errors of the model (out of contract) -/
example :
    ((ffiRun demoWorld Heap.empty {} (demoOps ++ [.configFree (some 0)])).toOption.isNone &&
     (ffiRun demoWorld Heap.empty {} (demoOps ++ [.getAux 3])).toOption.isNone &&
     (ffiRun demoWorld Heap.empty {} (demoOps.take 8 ++ [.key 1 41110 0 0])).toOption.isNone &&
     (match ffiRun demoWorld Heap.empty {} [.configNew, .configSet 0 (.layoutFile "avro_phonetic" false),
        .contextNew 0, .key 1 41110 0 0, .length 2] with
      | .error e => e == .panic .lonelyAccessor
      | .ok _ => false)) = true := by decide +kernel

/-- the demo sequence is in contract call by call (so `ffiRun_total` applies to it), e.g. its
    first read-out: handle 3 is a live list suggestion with more than 0 candidates -/
example : ∀ hp fs os, ffiRun demoWorld Heap.empty {} (demoOps.take 8) = .ok (hp, fs, os) →
    InContractFfi demoWorld hp (.getSuggestion 3 0) := by
  intro hp fs os h
  have hrun : (match ffiRun demoWorld Heap.empty {} (demoOps.take 8) with
      | .ok (hp, _, _) => alookup hp.suggestions 3 ==
          some (.full ['a', 'm'] [[Char.ofNat 2438, Char.ofNat 2478]] 0 false)
      | .error _ => false) = true := by decide +kernel
  rw [h] at hrun
  exact ⟨_, _, _, _, eq_of_beq hrun, by decide⟩

/-- `no_nul` applied to the demo run: its three live strings are NUL-free and seen in full by C -/
example : ∀ hp fs os, ffiRun demoWorld Heap.empty {} (demoOps.take 13) = .ok (hp, fs, os) →
    ∀ h s, alookup hp.strings h = some s → NoNul s ∧ cView s = s :=
  fun _ _ _ hr => (no_nul demoWorld_noNul (by intro t st h; cases h) hr).1

end Riti.C19
