/-
Lemmas/PhoneticInv — `PInv`, the invariant of reachable phonetic states: memo (`Inv`), selection store
relative to the effective store `S₀` (`SelInv`) and the list/index that `commit` reads (`ListInv`).
Every call keeps it (a learning commit relative to the store it leaves, `update_engine` while idle); key press and
backspace through ONE lemma (`PInv.refresh`), because both set the composition to a text whose proper prefixes were all
visited and then refresh what is shown.
-/
import RitiModel.Lemmas.Transparency
namespace Riti

/-! ### the list and index that `commit` reads -/

/-- the preselected index of the memo-free specification -/
def pureIndex (env : Env) (cfg : Cfg) (ua S₀ : Store) (b : Str) : Nat :=
  let parts := preparedParts env cfg b
  let l := suggestListPure env ua cfg b
  (l.findIdx? (fun r => r.text == wrapText parts.pre parts.trail ((effSel env S₀ parts.word).getD []))).getD 0

/-- while a word is being composed with suggestions on, the list and the preselected index kept in
    the state (what `commit` reads) are the memo-free ones of the composition -/
def ListInv (env : Env) (cfg : Cfg) (S₀ : Store) (s : PState) : Prop :=
  cfg.phoneticSuggestion = true → s.buffer ≠ [] →
    s.suggestions = suggestListPure env s.userAutocorrect cfg s.buffer ∧
    s.prevSelection = pureIndex env cfg s.userAutocorrect S₀ s.buffer

theorem create_list_pure {env : Env} (cfg : Cfg) {s : PState} (h : PreInv env s) :
    (suggest env cfg s s.buffer).2.1 = suggestListPure env s.userAutocorrect cfg s.buffer := by
  rw [suggest_list]; exact memo_transparent env _ cfg _ _ h.1 h.2

theorem create_index_pure {env : Env} (cfg : Cfg) {S₀ : Store} {s : PState} (h : PreInv env s)
    (hs : PreSelInv env S₀ s) : (suggest env cfg s s.buffer).2.2 = pureIndex env cfg s.userAutocorrect S₀ s.buffer := by
  rw [suggest_index, create_list_pure cfg h, (selectedFor_spec env S₀ _ _ hs.1 hs.2).1]
  simp only [pureIndex, preparedParts_word]

/-! ### the packed invariant -/

/-- everything the transparency theorems need of a phonetic state, relative to the configuration in
    force and the effective store `S₀` (the store as loaded / as of the last learning commit) -/
structure PInv (env : Env) (cfg : Cfg) (S₀ : Store) (s : PState) : Prop where
  memo : Inv env cfg.phoneticSuggestion s
  store : SelInv env S₀ cfg.phoneticSuggestion s
  list : ListInv env cfg S₀ s

/-- Idle, the invariant asks nothing of the list: what is left of the last word is stale, and in contract it is not
    read. -/
theorem PInv.of_idle {env : Env} {cfg : Cfg} {S₀ : Store} {s : PState}
    (hm : SoundMemo env s.userAutocorrect s.cache) (hs : StoreSound env S₀ s.selections) (hb : s.buffer = []) :
    PInv env cfg S₀ s :=
  ⟨⟨hm, fun _ => hb ▸ prefixComplete_nil _⟩, ⟨hs, fun _ => hb ▸ storeComplete_nil _ _ _⟩, fun _ hne => absurd hb hne⟩

theorem PInv.new (env : Env) (cfg : Cfg) (fs : FS) : PInv env cfg fs.sel.content (pNew fs) :=
  .of_idle (soundMemo_nil env _) storeSound_refl rfl

theorem PInv.reindex_idle {env : Env} {cfg : Cfg} {S₀ : Store} {s : PState} (h : PInv env cfg S₀ s)
    (hb : s.buffer = []) : PInv env cfg s.selections s :=
  .of_idle h.memo.1 storeSound_refl hb

/-! ### kept by every call -/

/-- The one step behind key press and backspace: the composition is set to a text whose proper prefixes are prefixes of
    the old one (a character appended, or characters removed), then what is shown is refreshed. -/
theorem PInv.refresh {env : Env} {cfg : Cfg} {S₀ : Store} {s : PState} (h : PInv env cfg S₀ s) {b : Str}
    (hb : b.dropLast <+: s.buffer) : PInv env cfg S₀ (pRefresh env cfg { s with buffer := b }).1 := by
  obtain ⟨hm, hs, _⟩ := h
  rcases pRefresh_cases env cfg { s with buffer := b } with ⟨he, e⟩ | ⟨_, hoff, e⟩ | ⟨_, hon, e⟩ <;> rw [e]
  · exact .of_idle hm.1 hs.1 he
  · -- only the composition changes, and with suggestions off the invariant does not mention it (`commit` does not
    -- read the list)
    exact ⟨hoff ▸ ⟨hm.1, nofun⟩, hoff ▸ ⟨hs.1, nofun⟩, fun hon => by cases hoff.symm.trans hon⟩
  · have pm : PreInv env { s with buffer := b } := ⟨hm.1, (hm.2 hon).mono hb⟩
    have ps : PreSelInv env S₀ { s with buffer := b } := ⟨hs.1, (hs.2 hon).mono hb⟩
    refine ⟨hon ▸ pCreate_inv_on hon pm, hon ▸ pCreate_selInv_on hon ps, fun _ _ => ?_⟩
    rw [pCreate_buffer, pCreate_ua, pCreate_on env cfg _ hon]
    exact ⟨create_list_pure cfg pm, create_index_pure cfg pm ps⟩

theorem PInv.key {env : Env} {cfg : Cfg} {S₀ : Store} {s : PState} (h : PInv env cfg S₀ s) (key sel : Nat) :
    PInv env cfg S₀ (pKey env cfg s key sel).1 := by
  rw [pKey_eq]; exact h.refresh (keyBuffer_dropLast_prefix _ _)

theorem PInv.backspace {env : Env} {cfg : Cfg} {S₀ : Store} {s : PState} (h : PInv env cfg S₀ s) (ctrl : Bool) :
    PInv env cfg S₀ (pBackspace env cfg s ctrl).1 := by
  rw [pBackspace_eq]; exact h.refresh (backspace_dropLast_prefix _ _)

theorem PInv.finish {env : Env} {cfg : Cfg} {S₀ : Store} {s : PState} (h : PInv env cfg S₀ s) :
    PInv env cfg S₀ (pFinish s) :=
  .of_idle h.memo.1 h.store.1 rfl

theorem PInv.learn {env : Env} {cfg : Cfg} {S₀ : Store} {s : PState} (h : PInv env cfg S₀ s) (st : Store) :
    PInv env cfg st { s with selections := st, buffer := [] } :=
  .of_idle h.memo.1 storeSound_refl rfl

/-- `wr.getD S₀` is the effective store after the commit: the store written if the commit learned, else `S₀` still. -/
theorem PInv.commit_getD {env : Env} {cfg : Cfg} {S₀ : Store} {s s' : PState} {i : Nat} {wr : Option Store}
    (h : PInv env cfg S₀ s) (hc : pCommit cfg s i = .ok (s', wr)) : PInv env cfg (wr.getD S₀) s' := by
  obtain rfl := (pCommit_ok hc).1
  cases wr with
  | none => exact h.finish
  | some st => exact h.learn st

theorem PInv.commit {env : Env} {cfg : Cfg} {S₀ : Store} {s s' : PState} {i : Nat} {wr : Option Store}
    (h : PInv env cfg S₀ s) (hc : pCommit cfg s i = .ok (s', wr)) : PInv env cfg s'.selections s' := by
  obtain rfl := (pCommit_ok hc).1
  exact h.learn _

theorem PInv.update {env : Env} {cfg : Cfg} {S₀ : Store} {s : PState} (h : PInv env cfg S₀ s) (cfg' : Cfg) (fs : FS)
    (hb : s.buffer = []) : PInv env cfg' S₀ (pUpdate fs s) := by
  rcases pUpdate_cases fs s with e | ⟨ua, t, e⟩ <;> rw [e]
  · exact .of_idle h.memo.1 h.store.1 hb
  · -- the user list is another one, but the memo was emptied with it
    exact .of_idle (soundMemo_nil env ua) h.store.1 hb

end Riti
