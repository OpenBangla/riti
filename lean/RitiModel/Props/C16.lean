/-
Props/C16 — with ANSI output on, no emoji, emoticon-derived or raw-English candidate is ever
offered (whatever the English option says), the pre-edit text of a candidate is the Bijoy-2000
encoding of that candidate, and with ANSI off it is the candidate itself.  Both methods.
The encoder (`poriborton`) is the parameter `env.bijoy`; that the modelled encoder leaves no Bengali-block code point
and when it panics is Props/Bijoy (`preedit_no_bengali`, `preedit_panics_only_on_badKar`).
-/
import RitiModel.Model.Context
import RitiModel.Lemmas.Rank
import RitiModel.Lemmas.Phonetic
import RitiModel.Lemmas.FixedSuggest
import RitiModel.Lemmas.Candidates
import RitiModel.Lemmas.PhoneticStep
namespace Riti.C16
open Riti

/-! ### the English option is masked -/

/-- `get_suggestion_include_english` answers "off" whenever ANSI output is on -/
theorem english_masked (cfg : Cfg) (h : cfg.ansi = true) : cfg.english = false := by
  simp [Cfg.english, h]

/-! ### phonetic method: nothing is added after the dictionary stage -/

/-- with ANSI on, the emoji / emoticon / raw-English stage of the phonetic method adds nothing -/
theorem ansi_phonetic_no_extras (env : Env) (cfg : Cfg) (term : Str) (parts : Parts) (l : List Rank)
    (h : cfg.ansi = true) : addExtras env cfg term parts l = l := by
  simp [addExtras, emojiStage_ansi env h, Cfg.english, h]

/-- every memo entry consists of `First` (auto-correct) and `Other` (dictionary) items only -/
def MemoPlain (cache : Memo) : Prop :=
  ∀ k v r, alookup cache k = some v → r ∈ v → r.variant = .first ∨ r.variant = .other

/-- `MemoPlain` is `MemoClean` (Lemmas/Candidates) with the arguments in another order -/
theorem memoPlain_iff (cache : Memo) : MemoPlain cache ↔ MemoClean cache :=
  ⟨fun h k e he r hr => h k e r he hr, fun h k e r he hr => h k e he r hr⟩

/-- the empty memo of a fresh engine is plain -/
theorem memoPlain_nil : MemoPlain [] := (memoPlain_iff _).mpr memoClean_nil

/-- filling the memo (what `suggestion_with_dict` does on a miss) keeps it plain, so every memo
    reachable from the empty one is plain -/
theorem memoFill_plain (env : Env) (ua : Store) (cache : Memo) (w : Str) (h : MemoPlain cache) :
    MemoPlain (memoFill env ua cache w) :=
  (memoPlain_iff _).mpr (memoClean_fill env ua cache w ((memoPlain_iff _).mp h))

/-- the only rank classes an ANSI list may contain: auto-correct (`First`), dictionary (`Other`)
    and the transliteration (`Last _ 2`) — not `Emoji`, not the emoticon literal `Last _ 1`,
    not the raw text `Last _ 3` -/
def AnsiItem (r : Rank) : Prop :=
  r.variant = .first ∨ r.variant = .other ∨ (r.variant = .last ∧ r.num = 2)

/-- phonetic method, ANSI on: every candidate is an auto-correct item, a dictionary(-derived) item
    or the transliteration; no emoji, no emoticon literal, no raw English text -/
theorem ansi_phonetic_variants (env : Env) (cfg : Cfg) (cache : Memo) (term : Str)
    (ha : cfg.ansi = true) (hm : MemoPlain cache) :
    ∀ r ∈ suggestList env cfg cache term, AnsiItem r :=
  forall_mem_suggestList (fun b hb => by simpa [AnsiItem] using (mem_baseItems hb).kind ((memoPlain_iff _).mp hm))
    (fun h => by simp [ha] at h) (fun h => by simp [ha] at h) (fun h => by simp [english_masked cfg ha] at h)

/-- the same for the list `PhoneticSuggestion::suggest` returns and stores, and the memo stays plain -/
theorem ansi_suggest_variants (env : Env) (cfg : Cfg) (s : PState) (term : Str)
    (ha : cfg.ansi = true) (hm : MemoPlain s.cache) :
    (∀ r ∈ (suggest env cfg s term).2.1, AnsiItem r) ∧ MemoPlain (suggest env cfg s term).1.cache :=
  ⟨ansi_phonetic_variants env cfg _ term ha (memoFill_plain env _ _ _ hm), memoFill_plain env _ _ _ hm⟩

/-- stated negatively: under ANSI no phonetic candidate is an emoji, the emoticon literal
    (`Last _ 1`) or the raw English text (`Last _ 3`) -/
theorem ansi_phonetic_none_forbidden (env : Env) (cfg : Cfg) (cache : Memo) (term : Str)
    (ha : cfg.ansi = true) (hm : MemoPlain cache) (r : Rank) (hr : r ∈ suggestList env cfg cache term) :
    r.variant ≠ .emoji ∧ (∀ t, r ≠ .last t 1) ∧ (∀ t, r ≠ .last t 3) := by
  have h := ansi_phonetic_variants env cfg cache term ha hm r hr
  refine ⟨?_, ?_, ?_⟩
  · rcases h with h | h | ⟨h, _⟩ <;> simp [h]
  · rintro t rfl; rcases h with h | h | ⟨_, h⟩ <;> simp [Rank.variant, Rank.num] at h
  · rintro t rfl; rcases h with h | h | ⟨_, h⟩ <;> simp [Rank.variant, Rank.num] at h

/-! ### fixed method -/

/-- fixed method, ANSI on: no emoji item is generated and no raw-English item is appended -/
theorem ansi_fixed_no_extras (env : Env) (cfg : Cfg) (s : FState) (parts : Parts) (typed : Str)
    (ha : cfg.ansi = true) :
    fixedEmoji env cfg parts typed = [] ∧ (fixedCands env cfg s).english = none := by
  refine ⟨by simp [fixedEmoji, ha], ?_⟩
  simp [fixedCands, english_masked cfg ha]

/-- fixed method, ANSI on, any ordering allowed by `sort_unstable`: every candidate shown is the
    composed text (`First`) or a dictionary word (`Other`) -/
theorem ansi_fixed_variants (w : World) (hs : IsSortPerm w.sorter) (cfg : Cfg) (s : FState)
    (ha : cfg.ansi = true) :
    ∀ r ∈ (fDictSuggestion w cfg s).1.suggestions, r.variant = .first ∨ r.variant = .other :=
  forall_mem_fDict (fun l => (hs l).1) (Or.inl (wrapR_variant _ _ _)) (fun r0 h0 => Or.inr (by simpa using fixedHits_variant h0))
    (fun r hr => by simp [(ansi_fixed_no_extras w.env cfg s _ s.typed ha).1] at hr)
    (fun h => by simp [english_masked cfg ha] at h)

/-! ### pre-edit text -/

/-- pre-edit text of candidate `i` of a list: its Bijoy encoding under ANSI, else the candidate -/
theorem preedit_spec (env : Env) (aux : Str) (l : List Str) (sel : Nat) (a : Bool) (i : Nat) (h : i < l.length) :
    (Sugg.full aux l sel a).getPreEdit env i = (if a then env.bijoy l[i] else .ok l[i]) := by
  simp [Sugg.getPreEdit, h]

/-- pre-edit text of a single-string suggestion (any index): Bijoy encoding under ANSI, else the string -/
theorem preedit_spec_single (env : Env) (t : Str) (a : Bool) (i : Nat) :
    (Sugg.single t a).getPreEdit env i = (if a then env.bijoy t else .ok t) := rfl

/-- an index outside the list is an error, never some other text -/
theorem preedit_out_of_range (env : Env) (aux : Str) (l : List Str) (sel : Nat) (a : Bool) (i : Nat)
    (h : l.length ≤ i) : (Sugg.full aux l sel a).getPreEdit env i = .error .indexOutOfRange := by
  simp [Sugg.getPreEdit, h]

/-! ### the ANSI flag of what is returned -/

/-- `Suggestion::empty()` is never flagged ANSI (its text is empty, nothing to encode) -/
theorem empty_not_ansi : Sugg.empty = .single [] false := rfl

/-- the ANSI flag carried by a suggestion -/
def flag : Sugg → Bool
  | .full _ _ _ a => a
  | .single _ a => a

/-- a suggestion is flagged exactly as configured, or is the empty one -/
def FlagOk (cfg : Cfg) (sg : Sugg) : Prop := flag sg = cfg.ansi ∨ sg = Sugg.empty

theorem pCreate_flag (env : Env) (cfg : Cfg) (s : PState) : flag (pCreateSuggestion env cfg s).2 = cfg.ansi := by
  unfold pCreateSuggestion; split <;> rfl

theorem fCreate_flag (w : World) (cfg : Cfg) (s : FState) : flag (fCreateSuggestion w cfg s).2 = cfg.ansi := by
  unfold fCreateSuggestion; split <;> rfl

/-- every suggestion built by either method's constructors carries the configured ANSI flag, or is
    `Suggestion::empty()` -/
theorem returned_ansi_flag (w : World) (cfg : Cfg) (ps : PState) (fs : FState) :
    FlagOk cfg (pCreateSuggestion w.env cfg ps).2 ∧ FlagOk cfg (fCreateSuggestion w cfg fs).2 ∧
      FlagOk cfg (fCurrentSuggestion cfg fs) := by
  refine ⟨Or.inl (pCreate_flag _ _ _), Or.inl (fCreate_flag _ _ _), ?_⟩
  unfold fCurrentSuggestion
  split
  · split
    · exact Or.inl rfl
    · exact Or.inl rfl
  · exact Or.inr rfl

theorem pRefresh_flag (env : Env) (cfg : Cfg) (s : PState) : FlagOk cfg (pRefresh env cfg s).2 := by
  unfold pRefresh
  split
  · exact Or.inr rfl
  · exact Or.inl (pCreate_flag _ _ _)

theorem FlagOk.mapIndex {cfg : Cfg} {sg : Sugg} (h : FlagOk cfg sg) (f : Nat → Nat) : FlagOk cfg (sg.mapIndex f) := by
  cases sg with
  | single t a => exact h
  | full aux l i a => exact Or.inl (h.resolve_right (fun e => by cases e))

/-- every suggestion any API call returns is flagged as configured or is the empty one: a key press and a backspace
    of the phonetic method end with a refresh, those of the fixed method with `create_suggestion`, the current or the
    empty suggestion -/
theorem step_flag (w : World) (c : Ctx) (fs : FS) (e : Event) (c' : Ctx) (fs' : FS) (sg : Sugg)
    (h : step w c fs e = .ok (c', fs', .sugg sg)) : FlagOk c.cfg sg := by
  cases hm : c.m with
  | phonetic s =>
    cases step_phonetic hm h with
    | key => rw [pKey_eq]; exact (pRefresh_flag _ _ _).mapIndex _
    | backspace => rw [pBackspace_eq]; exact pRefresh_flag _ _ _
  | fixed l s =>
    cases step_fixed hm h with
    | key =>
      exact fKey_ind (Q := fun r => FlagOk c.cfg r.2) (returned_ansi_flag w c.cfg {} s).2.2 fun _ _ =>
        ⟨.inr rfl, .inl (fCreate_flag _ _ _)⟩
    | backspace => exact fBackspace_ind (Q := fun r => FlagOk c.cfg r.2) (.inl (fCreate_flag _ _ _)) (.inr rfl)

/-- flag and read-out together, for a returned list: with ANSI on every pre-edit text is the encoder's output for the
    candidate at that index, with ANSI off it is the candidate -/
theorem preedit_of_returned (env : Env) (cfg : Cfg) (sg : Sugg) (hf : flag sg = cfg.ansi) (i : Nat) (c : Str)
    (h : sg.getSuggestion i = .ok c) :
    sg.getPreEdit env i = (if cfg.ansi then env.bijoy c else .ok c) := by
  cases sg with
  | single t a => cases h
  | full aux l sel a =>
    obtain rfl : a = cfg.ansi := hf
    -- the candidate read back at index `i` is `l[i]`, the text `getPreEdit` encodes
    simp only [Sugg.getSuggestion] at h
    split at h
    · next x hx => cases h; simp only [Sugg.getPreEdit, hx]
    · cases h

/-! ### non-vacuity -/

/-- a small world: `ab` has two dictionary hits and an emoticon, every word has an emoji name; the
    transliteration prefixes `T`; the encoder marks its output so that it visibly differs from its input -/
def witnessEnv : Env :=
  { convert := fun s => if s.isEmpty then [] else 'T' :: s
    dictPhonetic := fun w => if w == ['a', 'b'] then some [['x'], ['y']] else some []
    suffix := fun _ => none, autocorrect := fun _ => none
    emoticon := fun w => if w == ['a', 'b'] then some ['E'] else none
    emojiByName := fun _ => some [['N']], emojiBengali := fun _ => some [['B']]
    bijoy := fun s => .ok ('#' :: s), fixedTable := fun _ => [] }

def witnessWorld : World := { env := witnessEnv, layouts := fun _ => none, sorter := sortStable }

def cfgOff : Cfg := { phoneticSuggestion := true, fixedSuggestion := true, includeEnglish := true }
def cfgOn : Cfg := { cfgOff with ansi := true }

/-- the hypotheses are satisfiable and the conclusion is not trivial: with English on and ANSI off
    the phonetic list for `ab` contains the emoticon and its literal, the list for `c` an emoji and
    the raw text (`Last _ 3`); turning ANSI on (English still requested) removes exactly those -/
example :
    cfgOn.ansi = true ∧ cfgOn.includeEnglish = true ∧
    suggestList witnessEnv cfgOff (memoFill witnessEnv [] [] ['a', 'b']) ['a', 'b'] =
      [.emoji ['E'] 1, .other ['x'] 30, .other ['y'] 30, .last ['a', 'b'] 1, .last ['T', 'a', 'b'] 2] ∧
    suggestList witnessEnv cfgOn (memoFill witnessEnv [] [] ['a', 'b']) ['a', 'b'] =
      [.other ['x'] 30, .other ['y'] 30, .last ['T', 'a', 'b'] 2] ∧
    suggestList witnessEnv cfgOff (memoFill witnessEnv [] [] ['c']) ['c'] =
      [.emoji ['N'] 1, .last ['T', 'c'] 2, .last ['c'] 3] ∧
    suggestList witnessEnv cfgOn (memoFill witnessEnv [] [] ['c']) ['c'] = [.last ['T', 'c'] 2] := by
  decide +kernel

/-- `MemoPlain` holds of the memo used above -/
example : MemoPlain (memoFill witnessEnv [] [] ['a', 'b']) := memoFill_plain _ _ _ _ memoPlain_nil

/-- the text of a result, `none` for a panic -/
def okText : Res Str → Option Str
  | .ok t => some t
  | .error _ => none

/-- fixed method (composition `ক` typed with the key `j`): with ANSI off the Bengali emoji and the raw
    keys are offered, with ANSI on neither is; the pre-edit text goes through the encoder only under ANSI -/
example :
    let s : FState := { rbuf := [Char.ofNat 2453], rtyped := ['j'] }
    (fDictSuggestion witnessWorld cfgOff s).1.suggestions =
      [.first [Char.ofNat 2453], .emoji ['B'] 1, .last ['j'] 1] ∧
    (fDictSuggestion witnessWorld cfgOn s).1.suggestions = [.first [Char.ofNat 2453]] ∧
    okText ((fDictSuggestion witnessWorld cfgOn s).2.getPreEdit witnessEnv 0) = some ['#', Char.ofNat 2453] ∧
    okText ((fDictSuggestion witnessWorld cfgOff s).2.getPreEdit witnessEnv 0) = some [Char.ofNat 2453] := by
  simp only [fDict_list_eq_R, fDict_sugg_eq_R]
  decide +kernel

end Riti.C16
