/-
Props/Json — the JSON fragment of the per-user store (Model/Json): what the engine writes is read
back as the same entries, NO proper prefix of what it writes is readable, and no prefix of ANY
readable file reads as a different store.  Char level first, then the same over bytes (UTF-8).

Modelling assumption for the crash-point argument (C09/C10).  The store is rewritten with
`std::fs::write(path, bytes)` = `File::create(path)?.write_all(bytes)`: the file is opened with
`O_WRONLY|O_CREAT|O_TRUNC` — the old content is discarded first — and then `bytes` is appended.
Hence, if the process or the machine stops at any point of a save, the file holds a PREFIX of
the new content `printBytes m` (possibly the empty prefix, possibly all of it); mixtures "new
prefix ++ old suffix" cannot arise because of the truncation.  (Assumed, not modelled: the file
system does not expose the data before the truncation, and does not tear a write so that a later
part is present without an earlier part, e.g. zero-filled blocks after a power failure; content
STARTING with such garbage is covered by `garbage_start_rejected`.)
By `proper_prefix_rejected_bytes` every such intermediate content other than the complete one is
rejected by the reader, which the engine treats exactly like an absent file; by
`print_parse_roundtrip_bytes` the complete one is read back as the entries written;
`save_crash_points` states both in terms of the `FileState` of Model/Context.

The model's reader/writer are tied to the real serde_json by `tools/JsonRun.lean` (run over the
bytes the engine writes, every byte prefix of them, and hostile inputs).

Not proved: a declarative grammar for the accepted texts ("`t` is, up to whitespace and escape
spelling, an object listing exactly `m`"); what is proved in that direction is
`parseStore_printStore_of_parse`, `truncation_safe` and the `example`s below.
-/
import RitiModel.Model.Json
import RitiModel.Model.Context
import RitiModel.Lemmas.Store
import RitiModel.Lemmas.Json
namespace Riti.Json
open Riti Riti.AList

/-! ### the text the engine writes -/

/-- **print_parse_roundtrip**: whatever entries the engine writes (any keys and values: quotes,
    backslashes, control characters, any script), the reader accepts the text and yields exactly
    those entries in the same order — so the file a completed save leaves behind is always a
    JSON object of strings that a new context can load -/
theorem print_parse_roundtrip (m : Entries) : parseStore (printStore m) = some m := by
  have h := parseObject_printStore m []
  simp only [List.append_nil] at h
  simp [parseStore, h, skipWs]

/-- **proper_prefix_rejected**: EVERY proper prefix of the text the engine writes — the empty
    file included — is rejected by the reader: a save interrupted at any point leaves a file the
    next start-up treats as absent, never a file that loads as some other (smaller) store -/
theorem proper_prefix_rejected (m : Entries) (p : List Char) (hp : p <+: printStore m)
    (hne : p ≠ printStore m) : parseStore p = none := by
  simp [parseStore, none_of_pp parseObject_ext (List.append_nil _ ▸ parseObject_printStore m []) ⟨hp, hne⟩]

/-- the accepted entries, printed again, are accepted as the same entries: the reader's results
    are closed under the engine's own writer (a loaded store can always be saved and re-loaded) -/
theorem parseStore_printStore_of_parse (t : List Char) (m : Entries) (_h : parseStore t = some m) :
    parseStore (printStore m) = some m := print_parse_roundtrip m

/-! ### any accepted text, however produced -/

/-- if a text and a longer one are both accepted, the entries are the same and only whitespace was added -/
theorem parseStore_append {p x : List Char} {m m' : Entries} (hq : parseStore p = some m')
    (h : parseStore (p ++ x) = some m) : m' = m ∧ ∀ c ∈ x, isWs c = true := by
  revert hq
  fun_cases parseStore p with
  | case2 m'' r ho =>
    rintro ⟨⟩
    rw [parseStore, parseObject_ext x ho] at h
    dsimp only at h
    split at h
    · next hw => cases h; exact ⟨rfl, fun c hc => skipWs_eq_nil_iff.1 hw c (List.mem_append_right _ hc)⟩
    · cases h
  | _ => nofun

/-- **truncation_safe**: for ANY file content the reader accepts (not only one written by the
    engine: hand-edited, pretty-printed, other escape spellings), every prefix of it is either
    rejected or accepted with exactly the same entries — a truncated valid file never loads as a
    different store.  (Prefixes that are accepted exist: they differ from the full text only by
    trailing whitespace.) -/
theorem truncation_safe (t p : List Char) (m : Entries) (h : parseStore t = some m) (hp : p <+: t) :
    parseStore p = none ∨ parseStore p = some m := by
  obtain ⟨x, rfl⟩ := hp
  cases hq : parseStore p with
  | none => exact .inl rfl
  | some m' => exact .inr (congrArg some (parseStore_append hq h).1)

/-- **accepted_proper_prefix_rejected**: for ANY accepted content that does not end in
    whitespace (i.e. ends with its closing brace), every proper prefix is rejected — the general
    form of `proper_prefix_rejected`, independent of how the file was produced -/
theorem accepted_proper_prefix_rejected (t p : List Char) (m : Entries) (h : parseStore t = some m)
    (hl : ∀ c, t.getLast? = some c → isWs c = false) (hp : p <+: t) (hne : p ≠ t) :
    parseStore p = none := by
  obtain ⟨x, rfl⟩ := hp
  have hx : x ≠ [] := fun e => hne (by simp [e])
  cases hq : parseStore p with
  | none => rfl
  | some m' =>
    have h1 := (parseStore_append hq h).2 _ (List.getLast_mem hx)
    have h2 := hl (x.getLast hx) (by simp [List.getLast?_append, List.getLast?_eq_some_getLast hx])
    rw [h1] at h2; cases h2

/-- **garbage_start_rejected**: content whose first character is neither JSON whitespace nor `{` —
    a NUL from a zero-filled block, a byte-order mark, `[`, a digit, a letter — is rejected -/
theorem garbage_start_rejected (c : Char) (t : List Char) (hw : isWs c = false) (hc : c ≠ '{') :
    parseStore (c :: t) = none := by
  simp [parseStore, parseObject, skipWs, hw, hc]

/-! ### UTF-8 -/

/-- **utf8Decode_encode**: the encoding of any text is valid UTF-8 and decodes to that text -/
theorem utf8Decode_encode (cs : Str) : utf8Decode (utf8Encode cs) = some cs := by
  unfold utf8Decode
  induction cs with
  | nil => simp [utf8Encode, utf8DecodeFrom]
  | cons c cs ih => simp [utf8Encode, utf8DecodeFrom_encodeChar, ih, consO]

/-- the encoding is injective: different texts have different bytes -/
theorem utf8Encode_injective (a b : Str) (h : utf8Encode a = utf8Encode b) : a = b :=
  Option.some.inj ((utf8Decode_encode a).symm.trans (h ▸ utf8Decode_encode b))

/-- **utf8Decode_sound**: the decoder is strict — whatever it accepts is exactly the encoding of
    the text it returns (so `utf8Decode b = none` iff `b` is not valid UTF-8) -/
theorem utf8Decode_sound (b : List UInt8) (cs : Str) (h : utf8Decode b = some cs) : utf8Encode cs = b := by
  obtain ⟨pre, hl, rfl⟩ := utf8DecodeFrom_sound h
  rw [List.eq_nil_of_length_eq_zero hl]; rfl

/-- `utf8Decode` decides validity: it fails exactly on the byte strings that encode no text -/
theorem utf8Decode_eq_none_iff (b : List UInt8) : utf8Decode b = none ↔ ∀ cs, b ≠ utf8Encode cs := by
  constructor
  · rintro h cs rfl; rw [utf8Decode_encode] at h; cases h
  · intro h
    cases hd : utf8Decode b with
    | none => rfl
    | some cs => exact absurd (utf8Decode_sound b cs hd).symm (h cs)

/-- **utf8_prefix_cases**: a prefix of the bytes of a text either is the encoding of a prefix of
    the text (the cut falls between two characters) or is not valid UTF-8 (the cut falls inside a
    multi-byte character) -/
theorem utf8_prefix_cases (cs : Str) (b : List UInt8) (h : b <+: utf8Encode cs) :
    (∃ cs', cs' <+: cs ∧ b = utf8Encode cs') ∨ utf8Decode b = none := by
  induction cs generalizing b with
  | nil => exact .inl ⟨[], List.nil_prefix, List.prefix_nil.mp h⟩
  | cons c cs ih =>
    by_cases hb : b = []
    · exact .inl ⟨[], List.nil_prefix, hb⟩
    rcases prefix_append_cases h with h1 | ⟨q, rfl, h2⟩
    · exact .inr (utf8DecodeFrom_pp_encodeChar h1 hb)
    · rcases ih q h2 with ⟨cs', hp, rfl⟩ | hq
      · exact .inl ⟨c :: cs', List.cons_prefix_cons.mpr ⟨rfl, hp⟩, rfl⟩
      · refine .inr ?_
        unfold utf8Decode at hq ⊢
        rw [utf8DecodeFrom_encodeChar, hq]; rfl

/-! ### the file content as bytes -/

/-- on the bytes of a text, `from_slice` is the reader of the text -/
theorem parseBytes_encode (cs : Str) : parseBytes (utf8Encode cs) = parseStore cs := by
  simp only [parseBytes, utf8Decode_encode]

/-- **print_parse_roundtrip_bytes**: the bytes a completed save leaves in the file are read back
    (`from_slice`) as exactly the entries written -/
theorem print_parse_roundtrip_bytes (m : Entries) : parseBytes (printBytes m) = some m :=
  (parseBytes_encode _).trans (print_parse_roundtrip m)

/-- **proper_prefix_rejected_bytes**: the file content after a save interrupted at ANY byte — a
    proper prefix of the bytes being written, whether the cut falls between two characters or
    inside a multi-byte (e.g. Bengali) character — is rejected by the reader, i.e. is treated
    like an absent file at the next start-up -/
theorem proper_prefix_rejected_bytes (m : Entries) (b : List UInt8) (hb : b <+: printBytes m)
    (hne : b ≠ printBytes m) : parseBytes b = none := by
  rcases utf8_prefix_cases _ b hb with ⟨cs', hp, rfl⟩ | hd
  · exact (parseBytes_encode cs').trans (proper_prefix_rejected m cs' hp fun e => hne (e ▸ rfl))
  · simp [parseBytes, hd]

/-- **truncation_safe_bytes**: for ANY file content `from_slice` accepts, every byte prefix of it
    is either rejected or accepted with exactly the same entries -/
theorem truncation_safe_bytes (t b : List UInt8) (m : Entries) (h : parseBytes t = some m)
    (hb : b <+: t) : parseBytes b = none ∨ parseBytes b = some m := by
  cases hd : utf8Decode t with
  | none => simp [parseBytes, hd] at h
  | some cs =>
    cases utf8Decode_sound t cs hd
    rw [parseBytes_encode] at h
    rcases utf8_prefix_cases cs b hb with ⟨cs', hp, rfl⟩ | hn
    · rw [parseBytes_encode]; exact truncation_safe _ cs' m h hp
    · exact .inl (by simp [parseBytes, hn])

/-! ### from entries to the engine's map, and to the `FileState` of Model/Context -/

/-- **toStore_of_nodup**: entries with pairwise distinct keys — what the engine writes, its map
    having one binding per key — are the map itself, in the same order -/
theorem toStore_of_nodup (m : Entries) (h : (akeys m).Nodup) : toStore m = m := by
  simpa [toStore] using foldl_ainsert_nodup [] m (by simpa using h)

/-- with duplicate keys in the text, the LAST binding wins (`HashMap::insert` in textual order) -/
theorem alookup_toStore (m : Entries) (k : Str) : alookup (toStore m) k = alookup m.reverse k := by
  rw [toStore, alookup_foldl_ainsert]
  exact Option.or_none

/-- what a per-user file presents to the engine (`FileState` of Model/Context), computed from
    its content: `none` = there is no file (or it cannot be read), `some b` = it holds the bytes `b` -/
def fileStateOf : Option (List UInt8) → FileState
  | none => .absent
  | some b =>
    match parseBytes b with
    | none => .unreadable
    | some m => .parsed (toStore m)

/-- **save_crash_points**: take any entries `m` with pairwise distinct keys (the engine's map, in
    whatever order it is iterated) and any point of the `std::fs::write` that saves them (the
    file then holds a prefix `b` of the bytes, see the head of this file).  Either the write
    is complete and the file presents exactly `m`, or the file is unreadable, which the engine
    treats like an absent file (empty store).  There is no third case: no partially written file
    loads as a smaller or different store. -/
theorem save_crash_points (m : Entries) (hn : (akeys m).Nodup) (b : List UInt8) (hb : b <+: printBytes m) :
    (b = printBytes m ∧ fileStateOf (some b) = .parsed m) ∨
    (b ≠ printBytes m ∧ fileStateOf (some b) = .unreadable ∧
      (fileStateOf (some b)).content = (fileStateOf none).content) := by
  by_cases e : b = printBytes m
  · subst e
    exact .inl ⟨rfl, by simp [fileStateOf, print_parse_roundtrip_bytes, toStore_of_nodup m hn]⟩
  · have := proper_prefix_rejected_bytes m b hb e
    exact .inr ⟨e, by simp [fileStateOf, this], by simp [fileStateOf, this, FileState.content]⟩

/-- whatever bytes a file holds, it presents a definite state and the engine's view of it is a map:
    the reader is total (no panic, no partial result) -/
theorem fileStateOf_total (f : Option (List UInt8)) :
    fileStateOf f = .absent ∨ fileStateOf f = .unreadable ∨ ∃ st, fileStateOf f = .parsed st := by
  cases fileStateOf f with
  | absent => exact .inl rfl
  | unreadable => exact .inr (.inl rfl)
  | parsed st => exact .inr (.inr ⟨st, rfl⟩)

/-! ### what the reader rejects and accepts: concrete texts -/

-- rejected: nothing, other JSON values, non-string members, malformed objects

example : parseStore [] = none := by decide +kernel

example : parseStore "null".toList = none := by rw [String.toList_ofList]; decide +kernel

example : parseStore "42".toList = none := by rw [String.toList_ofList]; decide +kernel

example : parseStore "[]".toList = none := by rw [String.toList_ofList]; decide +kernel

example : parseStore "\"a\"".toList = none := by rw [String.toList_ofList]; decide +kernel

example : parseStore "{\"a\":1}".toList = none := by rw [String.toList_ofList]; decide +kernel

example : parseStore "{\"a\":null}".toList = none := by rw [String.toList_ofList]; decide +kernel

example : parseStore "{\"a\":true}".toList = none := by rw [String.toList_ofList]; decide +kernel

example : parseStore "{\"a\":[\"b\"]}".toList = none := by rw [String.toList_ofList]; decide +kernel

example : parseStore "{\"a\":{\"b\":\"c\"}}".toList = none := by rw [String.toList_ofList]; decide +kernel

example : parseStore "{\"a\":\"b\",}".toList = none := by rw [String.toList_ofList]; decide +kernel          -- trailing comma

example : parseStore "{,\"a\":\"b\"}".toList = none := by rw [String.toList_ofList]; decide +kernel

example : parseStore "{\"a\":\"b\"} x".toList = none := by rw [String.toList_ofList]; decide +kernel         -- trailing characters

example : parseStore "{\"a\":\"b\"}{}".toList = none := by rw [String.toList_ofList]; decide +kernel

example : parseStore "{\"a\":\"b\"".toList = none := by rw [String.toList_ofList]; decide +kernel            -- not closed

example : parseStore "{\"a\":\"b\" \"c\":\"d\"}".toList = none := by rw [String.toList_ofList]; decide +kernel  -- missing comma

example : parseStore "{\"a\" \"b\"}".toList = none := by rw [String.toList_ofList]; decide +kernel           -- missing colon

example : parseStore "{'a':'b'}".toList = none := by rw [String.toList_ofList]; decide +kernel               -- wrong quotes

example : parseStore "{a:\"b\"}".toList = none := by rw [String.toList_ofList]; decide +kernel               -- bare key

example : parseStore "{1:\"b\"}".toList = none := by rw [String.toList_ofList]; decide +kernel

example : parseStore "{\"a\":\"b}".toList = none := by rw [String.toList_ofList]; decide +kernel             -- unterminated string

example : parseStore "{\"a\":\"b\\\"}".toList = none := by rw [String.toList_ofList]; decide +kernel         -- … because its quote is escaped

example : parseStore "{\"a\":\"b\nc\"}".toList = none := by rw [String.toList_ofList]; decide +kernel        -- raw line feed inside a string

example : parseStore "{\"a\":\"b\tc\"}".toList = none := by rw [String.toList_ofList]; decide +kernel        -- raw tab inside a string

example : parseStore "{\"a\":\"\\x41\"}".toList = none := by rw [String.toList_ofList]; decide +kernel       -- unknown escape

example : parseStore "{\"a\":\"\\u12G4\"}".toList = none := by rw [String.toList_ofList]; decide +kernel     -- bad hex digit

example : parseStore "{\"a\":\"\\u12\"}".toList = none := by rw [String.toList_ofList]; decide +kernel       -- short \u

example : parseStore "{\"a\":\"\\ud83d\"}".toList = none := by rw [String.toList_ofList]; decide +kernel     -- lone leading surrogate

example : parseStore "{\"a\":\"\\ude00\"}".toList = none := by rw [String.toList_ofList]; decide +kernel     -- lone trailing surrogate

example : parseStore "{\"a\":\"\\ud83d\\u0041\"}".toList = none := by rw [String.toList_ofList]; decide +kernel  -- leading surrogate + non-surrogate

example : parseStore "{\"a\":\"\\ud83dx\"}".toList = none := by rw [String.toList_ofList]; decide +kernel

example : parseStore "\uFEFF{}".toList = none := by rw [String.toList_ofList]; decide +kernel                -- byte-order mark

example : parseStore "\x0c{}".toList = none := by rw [String.toList_ofList]; decide +kernel                  -- form feed is not JSON whitespace

example : parseStore "{}\x00".toList = none := by rw [String.toList_ofList]; decide +kernel
example : parseBytes [0, 0, 0, 0, 0, 0, 0, 0] = none := by decide +kernel      -- a zero-filled file

-- accepted

example : parseStore "{}".toList = some [] := by decide +kernel

example : parseStore " \t\r\n{ \n} \n".toList = some [] := by decide +kernel

example : parseStore " { \"a\" : \"b\" } ".toList = some [("a".toList, "b".toList)] := by decide +kernel

example : parseStore "{\"a\":\"ক\\n\"}".toList = some [("a".toList, "ক\n".toList)] := by decide +kernel

example : parseStore "{\"\":\"\"}".toList = some [([], [])] := by decide +kernel

example : parseStore "{\"a\":\"b\" , \"c\":\"d\"}".toList = some [("a".toList, "b".toList), ("c".toList, "d".toList)] := by decide +kernel

-- every escape spelling: named, solidus, \u in either case, \u0000, a surrogate pair

example : parseStore "{\"k\":\"\\\"\\\\\\/\\b\\f\\n\\r\\t\\u0041\\u00e9\\u00E9\\u0995\\u0000\\ud83d\\uDE00\"}".toList =
    some [("k".toList, ['"', '\\', '/', Char.ofNat 8, Char.ofNat 12, '\n', '\r', '\t', 'A', 'é', 'é', 'ক', Char.ofNat 0, '😀'])] := by
  rw [String.toList_ofList, String.toList_ofList]; decide +kernel

-- DEL and everything above are allowed raw

example : parseStore "{\"\x7f\":\"আমি\u200c\"}".toList = some [("\x7f".toList, "আমি\u200c".toList)] := by decide +kernel

-- duplicate keys: all entries are reported, in order; the engine's map keeps the last

example : parseStore "{\"a\":\"1\",\"b\":\"2\",\"a\":\"3\"}".toList =
    some [("a".toList, "1".toList), ("b".toList, "2".toList), ("a".toList, "3".toList)] := by decide +kernel

example : toStore [("a".toList, "1".toList), ("b".toList, "2".toList), ("a".toList, "3".toList)] =
    [("a".toList, "3".toList), ("b".toList, "2".toList)] := by decide +kernel

/-! ### non-vacuity: a store with Bengali text, quotes, backslashes and control characters -/

/-- learned selections as the engine could hold them, plus hostile keys/values -/
def sample : Entries :=
  [("ami".toList, "আমি".toList),
   ("kI".toList, "কী".toList),
   ("say \"hi\"".toList, "ব\\ল\n".toList),
   ([Char.ofNat 0, Char.ofNat 1, Char.ofNat 8, Char.ofNat 12, Char.ofNat 0x1f, Char.ofNat 0x7f], "\t\r😀".toList),
   ([], [])]

/-- exactly the text serde_json's compact formatter produces for it -/
example : printStore sample =
    "{\"ami\":\"আমি\",\"kI\":\"কী\",\"say \\\"hi\\\"\":\"ব\\\\ল\\n\",\"\\u0000\\u0001\\b\\f\\u001f\x7f\":\"\\t\\r😀\",\"\":\"\"}".toList := by
  rw [String.toList_ofList]; decide +kernel

example : parseStore (printStore sample) = some sample := by decide +kernel

example : parseBytes (printBytes sample) = some sample := by decide +kernel

example : (printStore sample).length = 85 ∧ (printBytes sample).length = 102 := by decide +kernel

/-- every one of the 85 proper character prefixes and of the 102 proper byte prefixes is rejected
    (instances of `proper_prefix_rejected`/`proper_prefix_rejected_bytes`, here by evaluation) -/
example : ∀ n, n < 85 → parseStore ((printStore sample).take n) = none := by decide +kernel

example : ∀ n, n < 102 → parseBytes ((printBytes sample).take n) = none := by decide +kernel

/-- a cut between two characters leaves valid UTF-8 (rejected as JSON); a cut inside the three
    bytes of `আ` leaves invalid UTF-8 -/
example : utf8Decode ((printBytes sample).take 8) = some "{\"ami\":\"".toList ∧
          utf8Decode ((printBytes sample).take 9) = none ∧
          utf8Decode ((printBytes sample).take 10) = none ∧
          utf8Decode ((printBytes sample).take 11) = some "{\"ami\":\"আ".toList := by decide +kernel

/-- non-vacuity of `truncation_safe`/`accepted_proper_prefix_rejected`: a hand-formatted file; the
    only accepted proper prefix is the one that merely lacks the final line feed -/
example : parseStore "{\n  \"ami\" : \"\\u0986মি\"\n}\n".toList = some [("ami".toList, "আমি".toList)] ∧
          parseStore "{\n  \"ami\" : \"\\u0986মি\"\n}".toList = some [("ami".toList, "আমি".toList)] ∧
          (∀ n, n < 24 → parseStore ("{\n  \"ami\" : \"\\u0986মি\"\n}".toList.take n) = none) := by decide +kernel

/-- non-vacuity of `save_crash_points`: the sample store has distinct keys -/
example : (akeys sample).Nodup := by decide +kernel

end Riti.Json
