/-
Props/C09 — learned selections: what a commit stores, how it is recalled (directly and for the
word followed by a known suffix), what a restart sees, and what the on-disk store can hold.
Recall of a learned and of a derived (suffixed) choice are both instances of `getPrevSelection_first`:
the preselected index is that of the first candidate carrying what the look-up `selectedFor` returns.
Findings proved here as concrete counter-examples: a stored value that keeps characters the
stripping does not know (curly quotes) or that is the raw English text is never recalled;
a derived (suffixed) entry becomes an entry of its own and shadows later re-learning of the base.
-/
import RitiModel.Lemmas.Store
import RitiModel.Lemmas.PhoneticStep
namespace Riti.C09
open Riti Riti.Gen Riti.AList

/-! ### what a commit learns -/

/-- the key a commit learns under: the typed text without its punctuation -/
def learnKey (s : PState) : Str := (split s.buffer false).word

/-- the value a commit learns: the chosen candidate without its punctuation (colon included) -/
def learnValue (r : Rank) : Str := (split r.text true).word

/-- **learn_stores**: committing a candidate other than the preselected one (suggestions on)
    binds the stripped typed text to the stripped candidate, hands exactly that store to the
    file write, clears the composition and changes nothing else -/
theorem learn_stores (cfg : Cfg) (s : PState) (i : Nat) (r : Rank)
    (hne : s.prevSelection ≠ i) (hcfg : cfg.phoneticSuggestion = true) (hr : s.suggestions[i]? = some r) :
    pCommit cfg s i =
      .ok ({ s with selections := ainsert s.selections (learnKey s) (learnValue r), buffer := [] },
           some (ainsert s.selections (learnKey s) (learnValue r))) := by
  have hb : (s.prevSelection != i) = true := by simpa using hne
  simp [pCommit, hb, hcfg, hr, learnKey, learnValue]

/-- **commit_preselected_inert**: committing the preselected candidate learns nothing and
    writes nothing; only the composition is cleared -/
theorem commit_preselected_inert (cfg : Cfg) (s : PState) (i : Nat) (h : i = s.prevSelection) :
    pCommit cfg s i = .ok ({ s with buffer := [] }, none) := by
  subst h; simp [pCommit]

/-- whatever a commit does, the store it leaves in memory is the old one or the old one with
    one binding inserted, and the store written (if any) is the one kept in memory -/
theorem commit_store_cases (cfg : Cfg) (s s' : PState) (i : Nat) (wr : Option Store)
    (h : pCommit cfg s i = .ok (s', wr)) :
    (s'.selections = s.selections ∧ wr = none) ∨
    (∃ r, s.suggestions[i]? = some r ∧ s.prevSelection ≠ i ∧ cfg.phoneticSuggestion = true ∧
      s'.selections = ainsert s.selections (learnKey s) (learnValue r) ∧ wr = some s'.selections) := by
  obtain ⟨rfl, hw⟩ := pCommit_ok h
  cases wr with
  | none => exact .inl ⟨rfl, rfl⟩
  | some st =>
    obtain ⟨r, hr, hne, hon, rfl⟩ := hw st rfl
    exact .inr ⟨r, hr, hne, hon, rfl, rfl⟩

/-- API level: a learning commit replaces the selections file by the new store when the
    directory is writable and leaves the files untouched otherwise -/
theorem step_learn (w : World) (c : Ctx) (fs : FS) (s : PState) (i : Nat) (r : Rank)
    (hm : c.m = .phonetic s) (hne : s.prevSelection ≠ i) (hcfg : c.cfg.phoneticSuggestion = true)
    (hr : s.suggestions[i]? = some r) :
    step w c fs (.commit i) =
      .ok ({ c with m := .phonetic { s with selections := ainsert s.selections (learnKey s) (learnValue r), buffer := [] } },
           (if fs.writable then { fs with sel := .parsed (ainsert s.selections (learnKey s) (learnValue r)) } else fs),
           .unit) := by
  simp only [step, hm, learn_stores c.cfg s i r hne hcfg hr]

/-- API level: committing the preselected candidate touches neither the store nor the files -/
theorem step_commit_preselected (w : World) (c : Ctx) (fs : FS) (s : PState) (hm : c.m = .phonetic s) :
    step w c fs (.commit s.prevSelection) = .ok ({ c with m := .phonetic { s with buffer := [] } }, fs, .unit) := by
  simp only [step, hm, commit_preselected_inert c.cfg s s.prevSelection rfl]

/-- a store whose keys are distinct (a JSON object) stays one under learning -/
theorem learned_store_keys_distinct (cfg : Cfg) (s s' : PState) (i : Nat) (wr : Option Store)
    (h : pCommit cfg s i = .ok (s', wr)) (hd : (akeys s.selections).Nodup) : (akeys s'.selections).Nodup := by
  rcases commit_store_cases cfg s s' i wr h with ⟨h1, _⟩ | ⟨r, _, _, _, h1, _⟩
  · rw [h1]; exact hd
  · rw [h1]; exact akeys_ainsert_nodup _ _ _ hd

/-! ### recall -/

/-- right after learning the look-up returns the choice learned -/
theorem selectedFor_after_learn (env : Env) (st : Store) (k v : Str) :
    selectedFor env (ainsert st k v) k = (v, ainsert st k v) :=
  selectedFor_learned env (alookup_ainsert_self st k v)

/-- the preselected index is that of the FIRST candidate carrying what the look-up returns (`v`), wrapped in the
    prepared punctuation, as soon as one is offered (at any index `j`); the store is the look-up's -/
theorem getPrevSelection_first {env : Env} {parts : Parts} {l : List Rank} {st st' : Store} {v : Str}
    (hsel : selectedFor env st parts.word = (v, st')) {j : Nat} {r : Rank}
    (hj : l[j]? = some r) (ht : r.text = wrapText parts.pre parts.trail v) :
    ∃ r₀, l[(getPrevSelection env parts l st).1]? = some r₀ ∧ r₀.text = r.text ∧
      (getPrevSelection env parts l st).1 ≤ j ∧
      (∀ i y, i < (getPrevSelection env parts l st).1 → l[i]? = some y → y.text ≠ r.text) ∧
      (getPrevSelection env parts l st).2 = st' := by
  rw [getPrevSelection_eq, hsel, ← ht]
  obtain ⟨hjl, rfl⟩ := List.getElem?_eq_some_iff.1 hj
  cases hf : l.findIdx? (fun y => y.text == l[j].text) with
  | none => exact absurd (List.findIdx?_eq_none_iff.1 hf _ (List.getElem_mem hjl)) (by simp)
  | some j₀ =>
    obtain ⟨h0, hp0, hmin⟩ := List.findIdx?_eq_some_iff_getElem.1 hf
    refine ⟨l[j₀], List.getElem?_eq_getElem h0, eq_of_beq hp0, Nat.le_of_not_lt fun hlt => hmin j hlt BEq.rfl,
      fun i y hi hy => ?_, rfl⟩
    obtain ⟨hil, rfl⟩ := List.getElem?_eq_some_iff.1 hy
    simpa using hmin i hi

/-- **c09_recall**: once `k ↦ v` is in the store, typing a text whose word part is `k`
    preselects the FIRST candidate whose text is `pre ++ v ++ trail`; so whenever such a
    candidate is offered (at any index `j`), the preselected index points at the same
    candidate text, and the store is not changed by the look-up -/
theorem c09_recall (env : Env) (parts : Parts) (l : List Rank) (st : Store) (k v : Str) (j : Nat) (r : Rank)
    (hk : alookup st k = some v) (hw : parts.word = k)
    (hj : l[j]? = some r) (ht : r.text = wrapText parts.pre parts.trail v) :
    ∃ r₀, l[(getPrevSelection env parts l st).1]? = some r₀ ∧ r₀.text = r.text ∧
      (getPrevSelection env parts l st).1 ≤ j ∧
      (∀ i y, i < (getPrevSelection env parts l st).1 → l[i]? = some y → y.text ≠ r.text) ∧
      (getPrevSelection env parts l st).2 = st := by
  subst hw
  exact getPrevSelection_first (selectedFor_learned env hk) hj ht

/-- … immediately after the learning commit (store `ainsert st k v`) -/
theorem c09_recall_after_learn (env : Env) (parts : Parts) (l : List Rank) (st : Store) (k v : Str) (j : Nat) (r : Rank)
    (hw : parts.word = k) (hj : l[j]? = some r) (ht : r.text = wrapText parts.pre parts.trail v) :
    ∃ r₀, l[(getPrevSelection env parts l (ainsert st k v)).1]? = some r₀ ∧ r₀.text = r.text := by
  obtain ⟨r₀, h1, h2, _⟩ := c09_recall env parts l (ainsert st k v) k v j r (alookup_ainsert_self st k v) hw hj ht
  exact ⟨r₀, h1, h2⟩

/-- when no candidate has the target text the preselected index falls back to 0 -/
theorem getPrevSelection_no_match (env : Env) (parts : Parts) (l : List Rank) (st : Store) (v : Str)
    (h : alookup st parts.word = some v) (hno : ∀ r ∈ l, r.text ≠ wrapText parts.pre parts.trail v) :
    (getPrevSelection env parts l st).1 = 0 := by
  rw [getPrevSelection_eq, selectedFor_learned env h]
  have : l.findIdx? (fun r => r.text == wrapText parts.pre parts.trail v) = none := by
    rw [List.findIdx?_eq_none_iff]; intro x hx; simpa using hno x hx
  simp [this]

/-! ### what `suggest` reports (the index the front end shows) -/

/-- the candidate's own core survives the punctuation stripping used when storing -/
def StripStable (pre trail core : Str) : Prop := (split (wrapText pre trail core) true).word = core

/-- **c09_recall_same_candidate** (user level).  A context showed candidate `i` with text
    `pre ++ core ++ trail` (`StripStable`), the user committed it instead of the preselected one.
    In any later state that still has the learned binding (same context: `learned_entry_persists`;
    new context: `c09_restart`), typing a text with the same word part and the same prepared
    punctuation preselects a candidate with that very text whenever one is offered. -/
theorem c09_recall_same_candidate (env : Env) (cfg cfg' : Cfg) (s s₁ : PState) (i : Nat) (r : Rank) (wr : Option Store)
    (pre trail core : Str)
    (hcommit : pCommit cfg s i = .ok (s₁, wr)) (hne : s.prevSelection ≠ i) (hcfg : cfg.phoneticSuggestion = true)
    (hr : s.suggestions[i]? = some r) (htext : r.text = wrapText pre trail core) (hstable : StripStable pre trail core)
    (s₂ : PState) (term : Str)
    (hkept : alookup s₂.selections (learnKey s) = alookup s₁.selections (learnKey s))
    (hword : (split term false).word = (split s.buffer false).word)
    (hpre : (preparedParts env cfg' term).pre = pre) (htrail : (preparedParts env cfg' term).trail = trail)
    (j : Nat) (r' : Rank) (hoffered : (suggest env cfg' s₂ term).2.1[j]? = some r') (hsame : r'.text = r.text) :
    ∃ r₀, (suggest env cfg' s₂ term).2.1[(suggest env cfg' s₂ term).2.2]? = some r₀ ∧ r₀.text = r.text ∧
      (suggest env cfg' s₂ term).2.2 ≤ j := by
  rw [learn_stores cfg s i r hne hcfg hr] at hcommit
  cases hcommit
  have hk : alookup s₂.selections (learnKey s) = some core := by
    rw [hkept]; exact (alookup_ainsert_self _ _ _).trans (congrArg some (by rw [learnValue, htext]; exact hstable))
  rw [suggest_index_def]
  obtain ⟨r₀, h1, h2, h3, _⟩ := c09_recall env (preparedParts env cfg' term) _ s₂.selections (learnKey s) core j r' hk
    ((preparedParts_word env cfg' term).trans hword) hoffered (by rw [hsame, htext, hpre, htrail])
  exact ⟨r₀, h1, by rw [h2, hsame], h3⟩

/-! ### the statement without `StripStable` is false (known findings) -/

/-- a small world: `e` transliterates to `এ`, the dictionary also offers the sign `ে` -/
def envQ : Env :=
  { convert := fun s => if s == ['e'] then ['এ'] else s,
    dictPhonetic := fun s => if s == ['e'] then some [['এ'], ['ে']] else some [],
    suffix := fun _ => none, autocorrect := fun _ => none, emoticon := fun _ => none,
    emojiByName := fun _ => none, emojiBengali := fun _ => none, bijoy := fun s => .ok s, fixedTable := fun _ => [] }

/-- a small world: `sesh` ↦ `শেষ`, `.` ↦ `।` -/
def envE : Env :=
  { convert := fun s => if s == ['.'] then ['।'] else if s == ['s', 'e', 's', 'h'] then ['শ', 'ে', 'ষ'] else s,
    dictPhonetic := fun s => if s == ['s', 'e', 's', 'h'] then some [['শ', 'ে', 'ষ']] else some [],
    suffix := fun _ => none, autocorrect := fun _ => none, emoticon := fun _ => none,
    emojiByName := fun _ => none, emojiBengali := fun _ => none, bijoy := fun s => .ok s, fixedTable := fun _ => [] }

/-- the state after a commit (the default state if it panicked; the examples check it did not) -/
def okState : Res (PState × Option Store) → PState
  | .ok (s, _) => s
  | .error _ => {}

/-- KNOWN FINDING (smart-quote / learning drift).  Smart quotes on, the user types `"e"` and
    commits the second candidate `“ে”`.  The stored value keeps the curly quotes (they are not
    in the META set the stripping knows), so when `"e"` is typed again the look-up searches for
    `““ে””`, finds nothing and preselects index 0 although the very same list is offered. -/
theorem curly_value_not_recalled :
    let cfg : Cfg := { phoneticSuggestion := true }
    let s₁ := (pCreateSuggestion envQ cfg { buffer := ['"', 'e', '"'] }).1
    let s₂ := okState (pCommit cfg s₁ 1)
    let s₃ := (pCreateSuggestion envQ cfg { s₂ with buffer := ['"', 'e', '"'] }).1
    s₁.prevSelection = 0 ∧ s₁.suggestions.map Rank.text = [['“', 'এ', '”'], ['“', 'ে', '”']] ∧
    (pCommit cfg s₁ 1).toBool = true ∧ s₂.selections = [(['e'], ['“', 'ে', '”'])] ∧
    s₃.suggestions = s₁.suggestions ∧ s₃.prevSelection = 0 := by decide +kernel

/-- the candidate of that example is not `StripStable` -/
theorem curly_not_stripStable : ¬ StripStable ['“'] ['”'] ['ে'] := by unfold StripStable; decide +kernel

/-- KNOWN FINDING (English candidate).  English candidate on, the user types `sesh.` and commits
    the raw English candidate `sesh.`.  It is stored as `sesh`; typing `sesh.` again searches for
    `sesh` + `।`, which no candidate has, and preselects index 0. -/
theorem english_value_not_recalled :
    let cfg : Cfg := { phoneticSuggestion := true, includeEnglish := true }
    let s₁ := (pCreateSuggestion envE cfg { buffer := ['s', 'e', 's', 'h', '.'] }).1
    let s₂ := okState (pCommit cfg s₁ 1)
    let s₃ := (pCreateSuggestion envE cfg { s₂ with buffer := ['s', 'e', 's', 'h', '.'] }).1
    s₁.prevSelection = 0 ∧ s₁.suggestions.map Rank.text = [['শ', 'ে', 'ষ', '।'], ['s', 'e', 's', 'h', '.']] ∧
    (pCommit cfg s₁ 1).toBool = true ∧ s₂.selections = [(['s', 'e', 's', 'h'], ['s', 'e', 's', 'h'])] ∧
    s₃.suggestions = s₁.suggestions ∧ s₃.prevSelection = 0 := by decide +kernel

/-- why: the English candidate carries the RAW punctuation (`.`) while the look-up wraps the
    stored core in the PREPARED punctuation (`।`), so it is not of the form
    `prepared pre ++ core ++ prepared trail` that `c09_recall_same_candidate` asks for -/
theorem english_trail_differs :
    (preparedParts envE { phoneticSuggestion := true, includeEnglish := true } ['s', 'e', 's', 'h', '.']).trail = ['।'] ∧
    (split ['s', 'e', 's', 'h', '.'] true).trail = ['.'] := by decide +kernel

/-- **the full statement is false**: `c09_recall_same_candidate` without `StripStable` fails at
    the curly-quote witness (every other hypothesis holds, the conclusion does not) -/
theorem c09_recall_same_candidate_needs_stripStable :
    ¬ (∀ (env : Env) (cfg cfg' : Cfg) (s s₁ : PState) (i : Nat) (r : Rank) (wr : Option Store) (pre trail core : Str),
        pCommit cfg s i = .ok (s₁, wr) → s.prevSelection ≠ i → cfg.phoneticSuggestion = true →
        s.suggestions[i]? = some r → r.text = wrapText pre trail core →
        ∀ (s₂ : PState) (term : Str),
        alookup s₂.selections (learnKey s) = alookup s₁.selections (learnKey s) →
        (split term false).word = (split s.buffer false).word →
        (preparedParts env cfg' term).pre = pre → (preparedParts env cfg' term).trail = trail →
        ∀ (j : Nat) (r' : Rank), (suggest env cfg' s₂ term).2.1[j]? = some r' → r'.text = r.text →
        ∃ r₀, (suggest env cfg' s₂ term).2.1[(suggest env cfg' s₂ term).2.2]? = some r₀ ∧ r₀.text = r.text) := by
  intro h
  let cfg : Cfg := { phoneticSuggestion := true }
  let s : PState := (pCreateSuggestion envQ cfg { buffer := ['"', 'e', '"'] }).1
  let r : Rank := .other ['“', 'ে', '”'] 10
  let s₂ : PState := { s with selections := ainsert s.selections (learnKey s) (learnValue r), buffer := [] }
  obtain ⟨r₀, h1, h2⟩ := h envQ cfg cfg s s₂ 1 r _ ['“'] ['”'] ['ে'] (learn_stores cfg s 1 r (by decide) rfl (by decide))
    (by decide) rfl (by decide) (by decide) s₂ ['"', 'e', '"'] rfl (by decide) (by decide) (by decide) 1 r (by decide) rfl
  have h0 : (suggest envQ cfg s₂ ['"', 'e', '"']).2.1[(suggest envQ cfg s₂ ['"', 'e', '"']).2.2]? =
      some (.other ['“', 'এ', '”'] 0) := by decide
  rw [h0] at h1
  cases h1
  revert h2; decide

/-- non-vacuity of `c09_recall_same_candidate`, and the good case: typing `e`, committing the second
    candidate `ে` (strip-stable), typing `e` again preselects index 1 -/
theorem plain_value_recalled :
    let cfg : Cfg := { phoneticSuggestion := true }
    let s₁ := (pCreateSuggestion envQ cfg { buffer := ['e'] }).1
    let s₂ := okState (pCommit cfg s₁ 1)
    let s₃ := (pCreateSuggestion envQ cfg { s₂ with buffer := ['e'] }).1
    s₁.prevSelection = 0 ∧ s₁.suggestions.map Rank.text = [['এ'], ['ে']] ∧
    (pCommit cfg s₁ 1).toBool = true ∧ s₂.selections = [(['e'], ['ে'])] ∧
    s₃.suggestions = s₁.suggestions ∧ s₃.prevSelection = 1 ∧ StripStable [] [] ['ে'] := by
  unfold StripStable; decide +kernel

/-! ### later in the same context: a learned binding stays until the same word is re-learned -/

/-- the look-up only ever adds a binding for a word that had none: existing bindings survive -/
theorem selectedFor_keeps (env : Env) {st : Store} (w : Str) {k v : Str} (h : alookup st k = some v) :
    alookup (selectedFor env st w).2 k = some v := by
  rw [selectedFor_lookup]
  split
  · next hk => rw [foundFor, ← eq_of_beq hk, h]; rfl
  · exact h

/-- typing and erasing never forget a learned choice -/
theorem pRefresh_keeps (env : Env) (cfg : Cfg) {s : PState} {k v : Str}
    (h : alookup s.selections k = some v) : alookup (pRefresh env cfg s).1.selections k = some v := by
  rw [pRefresh_selections]
  split
  · exact h
  · exact selectedFor_keeps env _ h

/-- the selections of a context (`[]` for the fixed method, which has none) -/
def ctxSelections (c : Ctx) : Store :=
  match c.m with
  | .phonetic s => s.selections
  | .fixed _ _ => []

/-- **learned_entry_persists** ("later in the same context"): a learned choice `k ↦ v` is still
    there after ANY event — keys, backspaces, finish, file changes, a same-layout `update_engine`,
    commits of other words — unless the event is a learning commit of the same word or an
    `update_engine` that changes the layout (which builds a new method from the files: `c09_restart`) -/
theorem learned_entry_persists (w : World) (c c' : Ctx) (fs fs' : FS) (e : Event) (o : Out) (k v : Str)
    (hs : step w c fs e = .ok (c', fs', o)) (h : alookup (ctxSelections c) k = some v) :
    alookup (ctxSelections c') k = some v ∨
    (∃ i s, e = .commit i ∧ c.m = .phonetic s ∧ learnKey s = k ∧ s.prevSelection ≠ i) ∨
    (∃ cfg p, e = .update cfg p ∧ c.layoutPath ≠ p) := by
  cases hm : c.m with
  | fixed l s => simp [ctxSelections, hm, alookup] at h
  | phonetic s =>
    simp only [ctxSelections, hm] at h
    cases step_phonetic hm hs with
    | key code _ sel => exact .inl (by rw [pKey_eq]; exact pRefresh_keeps w.env c.cfg h)
    | backspace ctrl => exact .inl (by rw [pBackspace_eq]; exact pRefresh_keeps w.env c.cfg h)
    | finish => exact .inl h
    | setFs f => exact .inl (by simpa [ctxSelections, hm] using h)
    | update cfg => exact .inl (by simpa [ctxSelections, pUpdate_selections] using h)
    | switch cfg p m hp _ => exact .inr (.inr ⟨cfg, p, rfl, hp⟩)
    | commit i s' wr hc =>
      -- the store after a commit is the old one, or the old one with the typed word re-bound
      show alookup s'.selections k = some v ∨ _
      rcases commit_store_cases c.cfg s s' i wr hc with ⟨h1, _⟩ | ⟨r, _, hne, _, h1, _⟩ <;> rw [h1]
      · exact .inl h
      · by_cases hk : learnKey s = k
        · exact .inr (.inl ⟨i, s, rfl, rfl, hk, hne⟩)
        · exact .inl ((alookup_ainsert_ne _ _ _ _ fun e => hk e.symm).trans h)

/-! ### the word followed by a known suffix -/

/-- a split point contributes nothing: unknown suffix, base not learned, or not joinable -/
def NoHit (env : Env) (st : Store) (ks : Str × Str) : Prop :=
  ∀ sfx base, env.suffix ks.2 = some sfx → alookup st ks.1 = some base → joinChecked base sfx = none

theorem prevSelLoop_skip {env : Env} {st : Store} {ks : Str × Str} {rest : List (Str × Str)} (h : NoHit env st ks) :
    prevSelLoop env st (ks :: rest) = prevSelLoop env st rest := by
  obtain ⟨key, test⟩ := ks
  simp only [prevSelLoop]
  split
  · rfl
  · next sfx hs =>
    split
    · rfl
    · next base hb => simp [h sfx base hs hb]

theorem prevSelLoop_hit {env : Env} {st : Store} {key test sfx base j : Str} {rest : List (Str × Str)}
    (hs : env.suffix test = some sfx) (hb : alookup st key = some base) (hj : joinChecked base sfx = some j) :
    prevSelLoop env st ((key, test) :: rest) = some j := by
  simp [prevSelLoop, hs, hb, hj]

/-- the `i`-th split point (key = first `i + 1` characters) -/
def splitAt (w : Str) (i : Nat) : Str × Str := (w.take (i + 1), w.drop (i + 1))

theorem splitPoints_eq (w : Str) : splitPoints w = (List.range (w.length - 1)).map (splitAt w) := rfl

/-- the loop tries the longest key first and skips every split point that contributes nothing -/
theorem prevSelLoop_skip_longer (env : Env) (st : Store) (w : Str) (m N : Nat) (hm : m < N)
    (hskip : ∀ i, m < i → i < N → NoHit env st (splitAt w i)) :
    prevSelLoop env st ((List.range N).reverse.map (splitAt w)) =
      prevSelLoop env st (splitAt w m :: (List.range m).reverse.map (splitAt w)) := by
  induction N with
  | zero => omega
  | succ N ih =>
    rw [List.range_succ, List.reverse_append, List.reverse_singleton, List.singleton_append, List.map_cons]
    by_cases hN : m = N
    · rw [hN]
    · rw [prevSelLoop_skip (hskip N (by omega) (by omega))]
      exact ih (by omega) (fun i h1 h2 => hskip i h1 (by omega))

/-- **c09_suffix**: `k ↦ base` is learned, `r` is a known suffix (`sfx`), the suffixed text `k ++ r`
    has no learned choice of its own, and no LONGER split of `k ++ r` yields a learned, joinable
    base with a known suffix (the loop takes the longest such base).  Then the look-up for
    `k ++ r` returns the joined form, and stores it as an entry of its own. -/
theorem c09_suffix (env : Env) (st : Store) (k r base sfx j : Str)
    (hk : k ≠ []) (hr : r ≠ [])
    (hbase : alookup st k = some base) (hsfx : env.suffix r = some sfx)
    (hnone : alookup st (k ++ r) = none)
    (hlongest : ∀ i, k.length ≤ i → i + 1 < (k ++ r).length → NoHit env st (splitAt (k ++ r) i))
    (hj : joinChecked base sfx = some j) :
    selectedFor env st (k ++ r) = (j, ainsert st (k ++ r) j) := by
  have hkl : 0 < k.length := List.length_pos_iff.mpr hk
  have hrl : 0 < r.length := List.length_pos_iff.mpr hr
  have hlen : (k ++ r).length = k.length + r.length := List.length_append
  have hloop : prevSelLoop env st (splitPoints (k ++ r)).reverse = some j := by
    rw [splitPoints_eq, ← List.map_reverse,
      prevSelLoop_skip_longer env st (k ++ r) (k.length - 1) _ (by omega) (fun i h1 h2 => hlongest i (by omega) (by omega)),
      show splitAt (k ++ r) (k.length - 1) = (k, r) by simp [splitAt, show k.length - 1 + 1 = k.length by omega]]
    exact prevSelLoop_hit hsfx hbase hj
  rw [selectedFor_eq, foundFor, hnone, Option.none_or, if_pos (by omega), hloop]
  rfl

/-- … so the preselected index for `k ++ r` points at the first candidate whose text is the joined
    form (wrapped in the prepared punctuation), whenever such a candidate is offered -/
theorem c09_suffix_index (env : Env) (parts : Parts) (l : List Rank) (st : Store) (k r base sfx j : Str)
    (hw : parts.word = k ++ r) (hk : k ≠ []) (hr : r ≠ [])
    (hbase : alookup st k = some base) (hsfx : env.suffix r = some sfx) (hnone : alookup st (k ++ r) = none)
    (hlongest : ∀ i, k.length ≤ i → i + 1 < (k ++ r).length → NoHit env st (splitAt (k ++ r) i))
    (hj : joinChecked base sfx = some j)
    (n : Nat) (x : Rank) (hn : l[n]? = some x) (ht : x.text = wrapText parts.pre parts.trail j) :
    ∃ x₀, l[(getPrevSelection env parts l st).1]? = some x₀ ∧ x₀.text = x.text ∧
      (getPrevSelection env parts l st).2 = ainsert st (k ++ r) j := by
  have hsel : selectedFor env st parts.word = (j, ainsert st (k ++ r) j) :=
    hw ▸ c09_suffix env st k r base sfx j hk hr hbase hsfx hnone hlongest hj
  obtain ⟨x₀, h1, h2, _, _, h5⟩ := getPrevSelection_first hsel hn ht
  exact ⟨x₀, h1, h2, h5⟩

/-- a derived entry, once stored, answers every later look-up of that word — whatever happens to
    the entry of the base it was derived from -/
theorem derived_entry_sticks (env : Env) (st : Store) (w j k v : Str) (hne : k ≠ w)
    (h : alookup st w = some j) : selectedFor env (ainsert st k v) w = (j, ainsert st k v) :=
  selectedFor_learned env ((alookup_ainsert_ne st k w v fun e => hne e.symm).trans h)

/-- a world with the suffix `e` ↦ `ে` -/
def envS : Env :=
  { convert := id, dictPhonetic := fun _ => some [],
    suffix := fun s => if s == ['e'] then some ['ে'] else none, autocorrect := fun _ => none, emoticon := fun _ => none,
    emojiByName := fun _ => none, emojiBengali := fun _ => none, bijoy := fun s => .ok s, fixedTable := fun _ => [] }

/-- KNOWN FINDING (staleness of derived entries).  Learn `kor ↦ কর`; looking `kore` up derives
    `করে` and stores it.  Re-learn `kor ↦ কোর`: `kore` still answers `করে`, not `কোরে` — the derived
    entry is now an entry of its own and shadows the re-learned base (a fresh store would give `কোরে`). -/
theorem derived_entry_shadows_relearning :
    let st₁ : Store := ainsert [] ['k', 'o', 'r'] ['ক', 'র']
    let look₁ := selectedFor envS st₁ ['k', 'o', 'r', 'e']
    let st₂ := ainsert look₁.2 ['k', 'o', 'r'] ['ক', 'ো', 'র']
    let look₂ := selectedFor envS st₂ ['k', 'o', 'r', 'e']
    look₁.1 = ['ক', 'র', 'ে'] ∧
    look₁.2 = [(['k', 'o', 'r'], ['ক', 'র']), (['k', 'o', 'r', 'e'], ['ক', 'র', 'ে'])] ∧
    look₂.1 = ['ক', 'র', 'ে'] ∧
    (selectedFor envS (ainsert [] ['k', 'o', 'r'] ['ক', 'ো', 'র']) ['k', 'o', 'r', 'e']).1 = ['ক', 'ো', 'র', 'ে'] := by
  decide +kernel

/-- the statement WITHOUT the longest-base hypothesis is false: with `kor ↦ কর`, `kore ↦ কোরে` learned
    and the suffixes `ei`, `i`, `e` known, `korei` is `kor` + `ei` (joined form `করেই`) but the loop
    takes the longer learned base `kore` + `i` and answers `কোরেই` -/
theorem suffix_longest_base_wins :
    let env : Env := { envS with suffix := fun s =>
      if s == ['e', 'i'] then some ['ে', 'ই'] else if s == ['i'] then some ['ই'] else if s == ['e'] then some ['ে'] else none }
    let st : Store := [(['k', 'o', 'r'], ['ক', 'র']), (['k', 'o', 'r', 'e'], ['ক', 'ো', 'র', 'ে'])]
    alookup st ['k', 'o', 'r'] = some ['ক', 'র'] ∧ env.suffix ['e', 'i'] = some ['ে', 'ই'] ∧
    alookup st (['k', 'o', 'r'] ++ ['e', 'i']) = none ∧
    joinChecked ['ক', 'র'] ['ে', 'ই'] = some ['ক', 'র', 'ে', 'ই'] ∧
    (selectedFor env st (['k', 'o', 'r'] ++ ['e', 'i'])).1 = ['ক', 'ো', 'র', 'ে', 'ই'] := by decide +kernel

/-- non-vacuity of `c09_suffix`: `kor ↦ কর`, suffix `e ↦ ে` -/
example : selectedFor envS [(['k', 'o', 'r'], ['ক', 'র'])] (['k', 'o', 'r'] ++ ['e']) =
    (['ক', 'র', 'ে'], ainsert [(['k', 'o', 'r'], ['ক', 'র'])] (['k', 'o', 'r'] ++ ['e']) ['ক', 'র', 'ে']) :=
  c09_suffix envS _ ['k', 'o', 'r'] ['e'] ['ক', 'র'] ['ে'] ['ক', 'র', 'ে'] (by decide) (by decide) (by decide) (by decide)
    (by decide) (by intro i h1 h2; simp at h1 h2; omega) (by decide)

/-! ### restart, and what the file can hold -/

/-- **c09_restart**: a new method over a directory whose selections file parses to `st` starts
    with exactly `st` -/
theorem c09_restart (fs : FS) (st : Store) : (pNew { fs with sel := .parsed st }).selections = st := rfl

/-- a context created over the directory written by a learning commit (writable) starts with
    exactly the committing context's store -/
theorem restart_after_learn (w : World) (c c' : Ctx) (fs fs' : FS) (s : PState) (i : Nat) (r : Rank) (o : Out)
    (cfg' : Cfg)
    (hm : c.m = .phonetic s) (hne : s.prevSelection ≠ i) (hcfg : c.cfg.phoneticSuggestion = true)
    (hr : s.suggestions[i]? = some r) (hw : fs.writable = true)
    (hs : step w c fs (.commit i) = .ok (c', fs', o)) :
    ∃ cn, Ctx.new w fs' cfg' "avro_phonetic" = some cn ∧ ctxSelections cn = ctxSelections c' ∧
      alookup (ctxSelections cn) (learnKey s) = some (learnValue r) := by
  rw [step_learn w c fs s i r hm hne hcfg hr, if_pos hw] at hs
  cases hs
  exact ⟨_, ctxNew_phonetic w _ cfg' rfl, rfl, alookup_ainsert_self _ _ _⟩

/-- the selections file holds a JSON object of strings -/
def Loadable : FileState → Prop
  | .parsed _ => True
  | _ => False

/-- one call leaves the selections file alone, or it is the outside world that changed the files,
    or a commit wrote the (loadable) store it keeps in memory — a commit never writes anything else -/
theorem step_sel_cases {w : World} {c c' : Ctx} {fs fs' : FS} {e : Event} {o : Out}
    (hs : step w c fs e = .ok (c', fs', o)) :
    fs' = fs ∨ (e = .setFs fs') ∨
    (∃ i, e = .commit i ∧ fs.writable = true ∧ fs' = { fs with sel := .parsed (ctxSelections c') }) := by
  cases hm : c.m with
  | fixed l s =>
    cases step_fixed hm hs with
    | setFs _ => exact .inr (.inl rfl)
    | _ => exact .inl rfl
  | phonetic s =>
    cases step_phonetic hm hs with
    | commit i s' wr hc =>
      rcases commit_store_cases c.cfg s s' i wr hc with ⟨_, rfl⟩ | ⟨_, _, _, _, _, rfl⟩
      · exact .inl rfl
      · by_cases hw : fs.writable = true
        · exact .inr (.inr ⟨i, rfl, hw, by simp [fsWrote, hw, ctxSelections]⟩)
        · exact .inl (by simp [fsWrote, hw])
    | setFs _ => exact .inr (.inl rfl)
    | _ => exact .inl rfl

/-- **store_always_loadable**: along any history, if the selections file was loadable at the start
    and the outside world only ever puts loadable content there, it is loadable at the end: the
    engine itself never writes anything but a JSON object of strings -/
theorem store_always_loadable (w : World) (evs : List Event) (c c' : Ctx) (fs fs' : FS) (os : List Out)
    (hworld : ∀ f, Event.setFs f ∈ evs → Loadable f.sel)
    (h0 : Loadable fs.sel) (hr : runFrom w c fs evs = .ok (c', fs', os)) : Loadable fs'.sel := by
  refine runFrom_invariant (P := fun _ fs => Loadable fs.sel) (fun e he c fs c₁ fs₁ o h0 hs => ?_) h0 hr
  rcases step_sel_cases hs with h | h | ⟨i, _, _, h⟩
  · rw [h]; exact h0
  · exact hworld fs₁ (h ▸ he)
  · rw [h]; trivial

/-- … and whatever the outside world did, the file is what it last put there or what a commit wrote:
    without any outside change the file is the initial one or a loadable store -/
theorem store_initial_or_loadable (w : World) (evs : List Event) (c c' : Ctx) (fs fs' : FS) (os : List Out)
    (hworld : ∀ f, Event.setFs f ∉ evs)
    (hr : runFrom w c fs evs = .ok (c', fs', os)) : fs'.sel = fs.sel ∨ Loadable fs'.sel := by
  refine runFrom_invariant (P := fun _ f => f.sel = fs.sel ∨ Loadable f.sel) (fun e he c f c₁ f₁ o h0 hs => ?_)
    (.inl rfl) hr
  rcases step_sel_cases hs with h | h | ⟨i, _, _, h⟩
  · rw [h]; exact h0
  · exact absurd (h ▸ he) (hworld f₁)
  · rw [h]; exact .inr trivial

end Riti.C09
