/-
Props/C12 — fixed-layout composition helpers rewrite the text exactly as documented.

With the old vowel-sign order option off, `processKeyValue` (the model of `process_key_value`,
src/fixed/method.rs) is compared with the declarative priority list `Spec.rules`
(Spec/FixedRules.lean).  The full-strength statement is FALSE of the code (two witnesses below:
F15 `value_cut_after_sign`, F20 `rofola_after_hasanta_lost`); the strongest true restriction is
`process_eq_rules_partial`.  Buffers are reversed lists (head = right-most code point).
-/
import RitiModel.Model.Fixed
import RitiModel.Spec.FixedRules
import RitiModel.Lemmas.Fixed
namespace Riti.C12
open Riti Riti.Spec

/-- one key value typed after `text` (given left-to-right), result left-to-right -/
def typeAfter (cfg : Cfg) (text v : Str) : Str := (processKeyValue cfg { rbuf := text.reverse } v).buffer

/-- what the rule list says for the same input, left-to-right -/
def specAfter (cfg : Cfg) (text v : Str) : Str := (applyFirst rules cfg text.reverse v).reverse

/-- `get_fixed_method_defaults()` (src/config.rs) -/
def fixedDefaults : Cfg :=
  { fixedSuggestion := true, fixedVowel := true, fixedChandra := true, fixedKar := true,
    fixedNumpad := true, fixedOldReph := true, fixedKarOrder := false }

/-! ### the main theorem -/

/-- C12, PARTIAL.  Old vowel-sign order off; the old-reph key excluded when old-style reph is on
    (that key is C13's subject); value `v` *covered*: a single code point, or the zo-fola value, or
    a value whose first code point is neither a vowel sign, hasanta nor the AU length mark.  Then,
    for EVERY buffer, every setting of the other options and every state (the pending sign, if any,
    is ignored by the code when the option is off): the new text is what the first applicable
    documented rule gives — else plain appending — and nothing else in the state changes.
    Excluded values are those of ≥ 2 code points that start with a sign / hasanta / length mark:
    there the code looks at the first code point only and the rest of the value is lost, see
    `value_cut_after_sign` and `rofola_after_hasanta_lost`. -/
theorem process_eq_rules_partial (cfg : Cfg) (s : FState) (v : Str)
    (hko : cfg.fixedKarOrder = false)
    (hr : cfg.fixedOldReph = false ∨ v ≠ rephValue)
    (hv : CoveredValue v) :
    (processKeyValue cfg s v).rbuf = applyFirst rules cfg s.rbuf v ∧
    (processKeyValue cfg s v).pending = s.pending ∧
    (processKeyValue cfg s v).rtyped = s.rtyped ∧
    (processKeyValue cfg s v).suggestions = s.suggestions := by
  rw [processKeyValue_noOrder hko]
  refine ⟨?_, rfl, rfl, rfl⟩
  -- the code goes by the first code point where the rules go by the whole value: the same for a covered value
  show stepBuf cfg s.rbuf v = applyFirst rules cfg s.rbuf v
  by_cases hz : v = zoFola
  · subst hz; rw [applyFirst_other cfg _ rfl]; rfl
  have hz' : ¬ (v == zoFola) = true := by simpa using hz
  cases v with
  | nil => rw [applyFirst_other cfg _ rfl]; rfl
  | cons ch t =>
    have hcov : t = [] ∨ (isKar ch = false ∧ ch ≠ cHasanta ∧ ch ≠ cLengthMark) :=
      (coveredValue_cons.mp hv).imp_right (·.resolve_left hz)
    rw [stepBuf_head hz hr]
    by_cases hk : isKar ch = true
    · obtain rfl : t = [] := hcov.resolve_right fun h => by rw [h.1] at hk; cases hk
      rw [if_pos hk, karTail_eq_rules hk]
    · have hs : signOf (ch :: t) = none := by cases t <;> simp [signOf, hk]
      have hx : ∀ x, x = cHasanta ∨ x = cLengthMark → (ch :: t == [x]) = (ch == x) := by
        rcases hcov with rfl | ⟨-, h2, h3⟩
        · intro x _; simp
        · rintro x (rfl | rfl) <;> simp [h2, h3]
      rw [if_neg hk, applyFirst_other cfg _ hs, if_neg hz', hx _ (.inl rfl), hx _ (.inr rfl)]

/-- the same, left-to-right: the composed text after the key is the rule list's text -/
theorem process_eq_rules_partial_text (cfg : Cfg) (text v : Str)
    (hko : cfg.fixedKarOrder = false) (hr : cfg.fixedOldReph = false ∨ v ≠ rephValue) (hv : CoveredValue v) :
    typeAfter cfg text v = specAfter cfg text v := by
  simp only [typeAfter, specAfter, FState.buffer]
  rw [(process_eq_rules_partial cfg { rbuf := text.reverse } v hko hr hv).1]

/-- when no rule applies the value is appended at the right end of the text -/
theorem default_appends (cfg : Cfg) (text v : Str) (h : firstRule rules cfg text.reverse v = none) :
    specAfter cfg text v = text ++ v := by
  simp [specAfter, applyFirst, h, append]

/-! ### the two witnesses that force the restriction (each refutes the full-strength statement) -/

/-- F15: a key value of two code points that starts with a vowel sign (`াং`) is cut to its first
    code point — the documented default says `কাং` -/
theorem value_cut_after_sign :
    typeAfter {} ['ক'] ['া', 'ং'] = ['ক', 'া'] ∧ specAfter {} ['ক'] ['া', 'ং'] = ['ক', 'া', 'ং'] := by decide +kernel

/-- F20: `ক্` + the ro-fola value `্র` gives `ক্‌` (hasanta + non-joiner): the "second hasanta"
    rule tests only the first code point of the value and the র is dropped — the documented rules
    say `ক্্র` (no rule applies to a value that is not a lone hasanta) -/
theorem rofola_after_hasanta_lost :
    typeAfter {} ['ক', '্'] ['্', 'র'] = ['ক', '্', '\u200c'] ∧
    specAfter {} ['ক', '্'] ['্', 'র'] = ['ক', '্', '্', 'র'] := by decide +kernel

/-- the full-strength statement (all values) is false of the code -/
theorem process_eq_rules_false :
    ¬ ∀ (cfg : Cfg) (s : FState) (v : Str), cfg.fixedKarOrder = false →
      (cfg.fixedOldReph = false ∨ v ≠ rephValue) →
      (processKeyValue cfg s v).rbuf = applyFirst rules cfg s.rbuf v := by
  intro h
  have := h {} { rbuf := ['্', 'ক'] } ['্', 'র'] rfl (Or.inl rfl)
  revert this
  decide +kernel

/-- the restriction of `process_eq_rules_partial` is TIGHT: for every value that is not covered
    there is an input (text `্`, all options off) on which the code and the documented rules
    differ — so "covered" is exactly the set of values on which the property holds for all texts
    and settings -/
theorem coverage_is_tight (v : Str) (h : ¬ CoveredValue v) :
    ∃ (cfg : Cfg) (s : FState), cfg.fixedKarOrder = false ∧ cfg.fixedOldReph = false ∧
      (processKeyValue cfg s v).rbuf ≠ applyFirst rules cfg s.rbuf v := by
  refine ⟨{}, { rbuf := [cHasanta] }, rfl, rfl, ?_⟩
  rw [processKeyValue_noOrder rfl]
  show stepBuf {} [cHasanta] v ≠ applyFirst rules {} [cHasanta] v
  -- the code keeps at most two code points, the rules append the whole value
  cases v with
  | nil => exact absurd (.inr (.inr nofun)) h
  | cons c v' =>
    obtain ⟨hv', h⟩ := not_or.mp (mt coveredValue_cons.mpr h)
    obtain ⟨hz, hc⟩ := not_or.mp h
    obtain ⟨d, t, rfl⟩ := List.exists_cons_of_ne_nil hv'
    have hspec : applyFirst rules {} [cHasanta] (c :: d :: t) = (c :: d :: t).reverse ++ [cHasanta] := by
      rw [applyFirst_other _ _ rfl, if_neg (by simpa using hz)]
      simp [pushStr]
    have hcode : (stepBuf {} [cHasanta] (c :: d :: t)).length ≤ 2 := by
      rw [stepBuf_head hz (.inl rfl)]
      by_cases k : isKar c = true
      · rw [if_pos k]; simp only [karTail, autoVowelPos]; cases karToVowel c <;> simp
      · by_cases k2 : c = cHasanta
        · subst k2; simp [unclassed_hasanta.kar]
        · by_cases k3 : c = cLengthMark
          · subst k3; simp [unclassed_lengthMark.kar, show ¬ cLengthMark = cHasanta by decide]
          · exact absurd ⟨by simpa using k, k2, k3⟩ hc
    intro e
    rw [e, hspec] at hcode
    simp at hcode

/-- neither witness is a covered value; the values of the theorem's non-vacuity examples are -/
example : ¬ CoveredValue ['া', 'ং'] ∧ ¬ CoveredValue ['্', 'র'] := by decide +kernel
example : CoveredValue [cAAKar] ∧ CoveredValue zoFola ∧ CoveredValue rephValue ∧ CoveredValue ['ক', '্', 'ষ'] ∧
    CoveredValue [] := by decide +kernel

/-! ### what the code does with the values that are not covered (complete description) -/

/-- a value of ≥ 2 code points (zo-fola apart) that starts with a vowel sign — in any position — or
    with hasanta / the length mark when the text ends in hasanta, acts exactly like its first code
    point alone: the rest of the value is lost (F15, F20 in general) -/
theorem uncovered_value_cut (cfg : Cfg) (s : FState) (c d : Char) (t : Str)
    (hko : cfg.fixedKarOrder = false) (hz : c :: d :: t ≠ zoFola)
    (h : isKar c = true ∨ ((c = cHasanta ∨ c = cLengthMark) ∧ s.rbuf.head? = some cHasanta)) :
    (processKeyValue cfg s (c :: d :: t)).rbuf = (processKeyValue cfg s [c]).rbuf := by
  rw [processKeyValue_noOrder hko, processKeyValue_noOrder hko]
  show stepBuf cfg s.rbuf (c :: d :: t) = stepBuf cfg s.rbuf [c]
  have hcR : c ≠ cR := by
    rcases h with h | ⟨h | h, -⟩
    · exact beq_eq_false_iff_ne.mp (ne_of_class h (by decide))
    · rw [h]; decide
    · rw [h]; decide
  -- both values go by `c`, and the arm that appends the whole value is not reached
  rw [stepBuf_head hz (.inr (by simp [rephValue, hcR])),
    stepBuf_head (by simp [zoFola]) (.inr (by simp [rephValue]))]
  rcases h with h | ⟨h, hl⟩
  · rw [if_pos h, if_pos h]
  · have hm : (s.rbuf.headD '\x00' == cHasanta) = true := by
      rw [List.headD_eq_head?_getD, hl]; exact beq_self_eq_true _
    rcases h with rfl | rfl
    · simp only [hm, unclassed_hasanta.kar, beq_self_eq_true, Bool.and_self, Bool.false_eq_true, if_false, if_true]
    · simp only [hm, unclassed_lengthMark.kar, show (cLengthMark == cHasanta) = false by decide, beq_self_eq_true,
        Bool.false_and, Bool.and_self, Bool.false_eq_true, if_false, if_true]

/-- in the remaining case (value starts with hasanta or the length mark, text does not end in
    hasanta) the whole value is appended, as documented -/
theorem uncovered_value_appended (cfg : Cfg) (s : FState) (c d : Char) (t : Str)
    (hko : cfg.fixedKarOrder = false) (hz : c :: d :: t ≠ zoFola)
    (hc : c = cHasanta ∨ c = cLengthMark) (hl : s.rbuf.head? ≠ some cHasanta) :
    (processKeyValue cfg s (c :: d :: t)).rbuf = (c :: d :: t).reverse ++ s.rbuf := by
  rw [processKeyValue_noOrder hko]
  have hk : isKar c = false := by rcases hc with rfl | rfl <;> decide
  have hr : c :: d :: t ≠ rephValue := by
    have : ¬ c = cR := by rcases hc with rfl | rfl <;> decide
    simp [rephValue, this]
  exact stepBuf_push hz (.inr hr) fun _ h => by cases h; exact ⟨hk, fun _ => headD_ne_hasanta hl⟩

/-! ### which rule wins (`firedRule` = name of the first applicable rule of the specification;
    the second conjunct is what the code does in the same situation) -/

/-- a sign right after chandrabindu, **also with automatic vowel forming on**: chandrabindu is
    neither a vowel nor punctuation, so R2 does not apply; R3 fires iff automatic chandrabindu is
    on, otherwise the sign is simply appended (R4/R5 cannot apply either) -/
theorem rule_priority_after_chandra (cfg : Cfg) (s : FState) (rest : Str) (k : Char)
    (hko : cfg.fixedKarOrder = false) (hk : isKar k = true) :
    firedRule cfg (cChandra :: rest) [k] = (if cfg.fixedChandra then some r3.name else none) ∧
    (processKeyValue cfg { s with rbuf := cChandra :: rest } [k]).rbuf =
      (if cfg.fixedChandra then cChandra :: k :: rest else k :: cChandra :: rest) := by
  have ⟨c1, _, c2, c3⟩ := unclassed_chandra
  have hfirst : firstRule rules cfg (cChandra :: rest) [k] = if cfg.fixedChandra then some r3 else none := by
    rw [firstRule_sign hk]
    simp [autoVowelPos, c1, c2, c3, chandra_ne_hasanta]
  constructor
  · rw [firedRule, hfirst]; cases cfg.fixedChandra <;> rfl
  · rw [(process_eq_rules_partial cfg _ [k] hko (.inr (by simp [rephValue])) (.inl rfl)).1, applyFirst, hfirst]
    cases cfg.fixedChandra
    · rfl
    · simp only [r3, append, dropLast1, if_true]; rw [lit_chandra]; rfl

/-- a sign right after hasanta, **also with automatic vowel forming on** (and whatever the other
    options): hasanta is neither vowel nor punctuation nor chandrabindu, so R4 fires: the independent
    vowel replaces the hasanta; for `ৄ` (no independent form) nothing changes -/
theorem rule_priority_after_hasanta (cfg : Cfg) (s : FState) (rest : Str) (k : Char)
    (hko : cfg.fixedKarOrder = false) (hk : isKar k = true) :
    firedRule cfg (cHasanta :: rest) [k] = some r4.name ∧
    (processKeyValue cfg { s with rbuf := cHasanta :: rest } [k]).rbuf =
      (match independentOf k with | some w => w :: rest | none => cHasanta :: rest) := by
  have hfirst : firstRule rules cfg (cHasanta :: rest) [k] = some r4 := by
    rw [firstRule_sign hk]
    simp [autoVowelPos, unclassed_hasanta.vowel, unclassed_hasanta.mark, hasanta_ne_chandra]
  constructor
  · rw [firedRule, hfirst]; rfl
  · rw [(process_eq_rules_partial cfg _ [k] hko (.inr (by simp [rephValue])) (.inl rfl)).1, applyFirst, hfirst]
    simp only [r4, signOf_kar hk, Option.bind_some, dropLast1, List.drop_succ_cons, List.drop_zero]
    rfl

/-- R5 never applies when R4 does (hasanta is not a consonant): their order is immaterial -/
theorem rule_priority_r4_excludes_r5 (cfg : Cfg) (rbuf v : Str) (h : r4.guard cfg rbuf v = true) :
    r5.guard cfg rbuf v = false := by
  obtain ⟨-, -, -, g4, g5, -, -⟩ := guards_unfold cfg rbuf v
  rw [g4, Bool.and_eq_true] at h
  rw [g5, (position_exclusive rbuf).2.2 h.2, Bool.and_false]

/-- the priority order of the rule list is in fact immaterial: for every configuration, text and
    value at most one guard holds (so R2 ≻ R3 ≻ R4 ≻ R5 of the code, or any other order, describe
    the same function) — a consequence of the regenerated classes: chandrabindu, hasanta and the
    joiners are neither vowel, punctuation nor consonant, and vowels/punctuation are not consonants -/
theorem rule_priority_immaterial (cfg : Cfg) (rbuf v : Str) :
    (rules.filter (fun r => r.guard cfg rbuf v)).length ≤ 1 := by
  rw [← List.countP_eq_length_filter]
  show List.countP id [r1.guard cfg rbuf v, r2.guard cfg rbuf v, r3.guard cfg rbuf v, r4.guard cfg rbuf v,
    r5.guard cfg rbuf v, r6.guard cfg rbuf v, r7.guard cfg rbuf v] ≤ 1
  obtain ⟨f1, fs, f6, f7⟩ := guards_value cfg rbuf v
  cases hs : signOf v with
  | none =>
    -- no sign: R2–R5 are out; the zo-fola, a lone hasanta and a lone length mark are different values
    obtain ⟨f2, f3, f4, f5⟩ := fs hs
    rw [f2, f3, f4, f5]
    by_cases hz : v = zoFola
    · rw [f6 (by rw [hz]; decide), f7 (by rw [hz]; decide)]; cases r1.guard cfg rbuf v <;> decide
    · rw [f1 hz]
      by_cases h6 : v = [cHasanta]
      · rw [f7 (by rw [h6]; decide)]; cases r6.guard cfg rbuf v <;> decide
      · rw [f6 h6]; cases r7.guard cfg rbuf v <;> decide
  | some k =>
    -- a sign: R1, R6, R7 are out; R2–R5 test positions that exclude one another
    obtain ⟨rfl, hk⟩ := signOf_some hs
    obtain ⟨k1, k2, k3⟩ := kar_value_facts hk
    obtain ⟨-, g2, g3, g4, g5, -, -⟩ := guards_unfold cfg rbuf [k]
    obtain ⟨p2, p3, p4⟩ := position_exclusive rbuf
    rw [f1 (by simpa using k1), f6 (by simpa using k2), f7 (by simpa using k3), g2, g3, g4, g5, hs]
    cases h2 : autoVowelPos rbuf (rbuf.headD '\x00') with
    | true => obtain ⟨e3, e4, e5⟩ := p2 h2; rw [e3, e4, e5]; cases cfg.fixedVowel <;> simp
    | false =>
      cases h3 : rbuf.headD '\x00' == cChandra with
      | true => obtain ⟨e4, e5⟩ := p3 h3; rw [e4, e5]; cases cfg.fixedChandra <;> simp
      | false =>
        cases h4 : rbuf.headD '\x00' == cHasanta with
        | true => rw [p4 h4]; simp
        | false => cases cfg.fixedKar && Option.any isLigatureKar (some k) && isPureConsonant (rbuf.headD '\x00') <;> simp

/-- after a joiner or a non-joiner no rule applies, whatever the value and the options: the value
    is appended (by the code: for every covered value, the old-reph key excepted) -/
theorem rule_priority_after_joiner (cfg : Cfg) (s : FState) (j : Char) (rest v : Str)
    (hj : j = cZWJ ∨ j = cZWNJ) :
    firedRule cfg (j :: rest) v = none ∧
    (cfg.fixedKarOrder = false → (cfg.fixedOldReph = false ∨ v ≠ rephValue) → CoveredValue v →
      (processKeyValue cfg { s with rbuf := j :: rest } v).rbuf = v.reverse ++ j :: rest) := by
  obtain ⟨g1, g2, g3, g4, g5, g6, g7⟩ := guards_unfold cfg (j :: rest) v
  have ⟨c1, _, c2, c3⟩ : Unclassed j := by
    rcases hj with rfl | rfl
    · exact unclassed_zwj
    · exact unclassed_zwnj
  have ⟨c4, c5, c6⟩ : (j == cChandra) = false ∧ (j == cHasanta) = false ∧ (j == cR) = false := by
    rcases hj with rfl | rfl <;> decide
  have hfirst : firstRule rules cfg (j :: rest) v = none := by
    rw [firstRule_rules, g1, g2, g3, g4, g5, g6, g7]
    simp [autoVowelPos, c1, c2, c3, c4, c5, c6]
  refine ⟨by rw [firedRule, hfirst]; rfl, fun hko hr hv => ?_⟩
  rw [(process_eq_rules_partial cfg _ v hko hr hv).1, applyFirst, hfirst]
  rfl

/-- OBSERVATION: the sign `ৄ` (U+09C4, in `is_kar`, no independent vowel) typed right after
    hasanta is silently dropped, under every setting with the old vowel-sign order off -/
theorem vocalic_rr_after_hasanta_dropped (cfg : Cfg) (s : FState) (rest : Str) (hko : cfg.fixedKarOrder = false) :
    (processKeyValue cfg { s with rbuf := cHasanta :: rest } ['ৄ']).rbuf = cHasanta :: rest := by
  rw [(rule_priority_after_hasanta cfg s rest 'ৄ' hko (by decide)).2]
  have : independentOf 'ৄ' = none := by decide
  rw [this]

/-- OBSERVATION: with automatic vowel forming, `ৄ` typed at the start of a word is silently dropped
    as well -/
theorem vocalic_rr_at_start_dropped (cfg : Cfg) (s : FState) (hko : cfg.fixedKarOrder = false)
    (hv : cfg.fixedVowel = true) :
    (processKeyValue cfg { s with rbuf := [] } ['ৄ']).rbuf = [] := by
  rw [processKeyValue_noOrder hko]
  have h4 : karToVowel 'ৄ' = none := by decide
  show stepBuf cfg [] ['ৄ'] = []
  rw [stepBuf_head (by decide) (.inr (by decide)), if_pos (by decide)]
  simp [h4, karTail, hv, autoVowelPos]

/-- … whereas after a consonant it is appended like any other sign -/
example : typeAfter fixedDefaults ['ক'] ['ৄ'] = ['ক', 'ৄ'] ∧ typeAfter fixedDefaults ['ক', '্'] ['ৄ'] = ['ক', '্'] ∧
    typeAfter fixedDefaults [] ['ৄ'] = [] := by decide +kernel

/-! ### locality -/

/-- the effect of a key value depends only on the last two code points of the text, the value and
    the options: on a text of ≥ 2 code points the code pops `(localEffect cfg a b v).1 ≤ 1` code
    points and pushes `(localEffect cfg a b v).2` — `localEffect` (Lemmas/Fixed) is a function of
    `(cfg, a, b, v)` only; for ALL values (no coverage restriction), old vowel-sign order off, old-reph
    key excluded (its scan is unbounded: C13).  This is what justifies the short exhaustive
    histories of the correspondence check. -/
theorem process_local (cfg : Cfg) (s : FState) (a b : Char) (rest v : Str)
    (hko : cfg.fixedKarOrder = false) (hr : cfg.fixedOldReph = false ∨ v ≠ rephValue) :
    (localEffect cfg a b v).1 ≤ 1 ∧
    (processKeyValue cfg { s with rbuf := a :: b :: rest } v).rbuf =
      (localEffect cfg a b v).2 ++ (a :: b :: rest).drop (localEffect cfg a b v).1 := by
  rw [processKeyValue_noOrder hko]
  refine ⟨localEffect_le cfg a b v, ?_⟩
  -- `localEffect` is `stepBuf`, branch for branch
  show stepBuf cfg (a :: b :: rest) v = _
  unfold stepBuf localEffect
  refine ite_effect (fun _ => ?_) fun _ => ?_
  · simp only [pushStr, zwjBefore, List.headD_cons, List.drop_succ_cons, List.drop_zero]
    by_cases c : (a == cR && b != cHasanta) = true
    · simp only [c, ↓reduceIte]; simp
    · simp only [c]; simp
  rw [if_neg (not_reph hr)]
  cases v with
  | nil => rfl
  | cons ch t =>
    exact ite_effect (fun _ => karTail_local cfg a ch (b :: rest)) fun _ => ite_effect (fun _ => rfl) fun _ =>
      ite_effect (fun _ => rfl) fun _ => rfl

/-- locality as the correspondence check relies on it: the result on a long text is the result on its last two
    code points with the untouched left part put back (left-to-right: `xs ++ [y, z]` ↦
    `xs ++ result [y, z]`) -/
theorem process_local_suffix (cfg : Cfg) (s : FState) (a b : Char) (rest v : Str)
    (hko : cfg.fixedKarOrder = false) (hr : cfg.fixedOldReph = false ∨ v ≠ rephValue) :
    (processKeyValue cfg { s with rbuf := a :: b :: rest } v).rbuf =
      (processKeyValue cfg { s with rbuf := [a, b] } v).rbuf ++ rest := by
  have hle := (process_local cfg s a b rest v hko hr).1
  rw [(process_local cfg s a b rest v hko hr).2, (process_local cfg s a b [] v hko hr).2]
  have : (localEffect cfg a b v).1 = 0 ∨ (localEffect cfg a b v).1 = 1 := by omega
  rcases this with h | h <;> simp [h]

/-- the same left-to-right -/
theorem process_local_text (cfg : Cfg) (xs : Str) (y z : Char) (v : Str)
    (hko : cfg.fixedKarOrder = false) (hr : cfg.fixedOldReph = false ∨ v ≠ rephValue) :
    typeAfter cfg (xs ++ [y, z]) v = xs ++ typeAfter cfg [y, z] v := by
  simp only [typeAfter, FState.buffer]
  have := process_local_suffix cfg { rbuf := [] } z y xs.reverse v hko hr
  simp only [] at this
  simp [this]

/-- old-style reph is NOT local in this sense (the reason for its exclusion): the same last two
    code points, different results further left -/
example : typeAfter fixedDefaults ['ক', '্', 'ক', 'া'] rephValue = ['র', '্', 'ক', '্', 'ক', 'া'] ∧
    typeAfter fixedDefaults ['ক', 'ক', 'া'] rephValue = ['ক', 'র', '্', 'ক', 'া'] := by decide +kernel

/-! ### backspace -/

/-- Backspace (no pending sign) removes exactly the last code point of the composed text -/
theorem backspace_pops_one (s : FState) (c : Char) (rest : Str)
    (hp : s.pending = none) (hb : s.rbuf = c :: rest) :
    (fBackspaceState s false).1.rbuf = rest ∧ (fBackspaceState s false).1.pending = none := by
  obtain ⟨hr, hq, -⟩ := fBackspaceState_spec s false
  exact ⟨by rw [hr, hp, hb]; rfl, hq⟩

/-- the same, left-to-right: the text loses its last code point -/
theorem backspace_dropLast (s : FState) (hp : s.pending = none) :
    (fBackspaceState s false).1.buffer = s.buffer.dropLast := by
  rw [FState.buffer, (fBackspaceState_spec s false).1, hp]
  simp [FState.buffer]

/-- Ctrl-backspace on a non-empty composition clears everything (text, typed keys, pending sign) -/
theorem ctrl_backspace_clears (s : FState) (h : s.rbuf ≠ []) :
    (fBackspaceState s true).1.rbuf = [] ∧ (fBackspaceState s true).1.rtyped = [] ∧
    (fBackspaceState s true).1.pending = none ∧ (fBackspaceState s true).2 = false := by
  rw [fBackspaceState_ctrl h]
  exact ⟨rfl, rfl, rfl, rfl⟩

/-! ### non-vacuity: the assertions of the Rust test `test_features` (src/fixed/method.rs) and of
    `test_z_zofola`, on the model — every one an instance of the hypotheses of
    `process_eq_rules_partial` -/

-- Automatic Vowel Forming
example : typeAfter fixedDefaults [] [cAAKar] = ['আ'] := by decide +kernel
example : typeAfter fixedDefaults ['আ'] [cIKar] = ['আ', 'ই'] := by decide +kernel
-- Automatic Chandra position
example : typeAfter fixedDefaults ['ক', 'ঁ'] [cAAKar] = ['ক', 'া', 'ঁ'] := by decide +kernel
-- Traditional Kar joining
example : typeAfter fixedDefaults ['র'] [cUKar] = ['র', '\u200c', 'ু'] := by decide +kernel
-- Without Traditional Kar joining
example : typeAfter { fixedDefaults with fixedKar := false } ['র'] [cUKar] = ['র', 'ু'] := by decide +kernel
-- Vowel making with Hasanta
example : typeAfter { fixedDefaults with fixedKar := false } ['্'] [cUKar] = ['উ'] := by decide +kernel
example : typeAfter { fixedDefaults with fixedKar := false } ['্'] [cLengthMark] = ['ঔ'] := by decide +kernel
-- Double Hasanta for Hasanta + ZWNJ
example : typeAfter { fixedDefaults with fixedKar := false } [cHasanta] [cHasanta] = ['্', '\u200c'] := by decide +kernel
-- Others
example : typeAfter { fixedDefaults with fixedKar := false } ['ক'] ['খ'] = ['ক', 'খ'] := by decide +kernel
example : typeAfter { fixedDefaults with fixedKar := false } ['ক'] [cAAKar] = ['ক', 'া'] := by decide +kernel
-- test_z_zofola
example : typeAfter fixedDefaults ['র', '্'] ['য'] = ['র', '্', 'য'] := by decide +kernel
example : typeAfter fixedDefaults ['র'] ['্', 'য'] = ['র', '\u200d', '্', 'য'] := by decide +kernel
example : typeAfter fixedDefaults ['ক', '্', 'র'] ['্', 'য'] = ['ক', '্', 'র', '্', 'য'] := by decide +kernel
example : typeAfter fixedDefaults ['খ', '্'] ['য'] = ['খ', '্', 'য'] := by decide +kernel
example : typeAfter fixedDefaults ['খ'] ['্', 'য'] = ['খ', '্', 'য'] := by decide +kernel

/-- the hypotheses of `process_eq_rules_partial` hold at a concrete non-trivial input, and its
    conclusion there is the third assertion of `test_features` -/
example : fixedDefaults.fixedKarOrder = false ∧ (fixedDefaults.fixedOldReph = false ∨ [cAAKar] ≠ rephValue) ∧
    CoveredValue [cAAKar] ∧ specAfter fixedDefaults ['ক', 'ঁ'] [cAAKar] = ['ক', 'া', 'ঁ'] := by decide +kernel

end Riti.C12
