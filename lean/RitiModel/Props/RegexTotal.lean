/-
Props/RegexTotal — the look-up of the phonetic method never fails inside the model: for EVERY typed word the expression
generated by okkhor is inside the syntax read by `parseRx`, so `dictSearch` always answers (`some`), and the specification
of `Props/Regex.dictSearch_spec` applies to every word.

Route: every replacement of the regenerated `REGEX_PATTERNS` table, and the `EXTRA` suffix, is a text that `parseCat` reads
as a sequence of items (`closedChk`, evaluated by the kernel over the whole table); such texts compose
(`Lemmas/RegexTotal.closed_append`) and are whole expressions (`parseRx_of_closed`); the characters copied verbatim by the
generator are never special, because ASCII punctuation is removed first and every special character is ASCII punctuation.
-/
import Lean.Meta.Tactic.Simp.Simproc
import RitiModel.Lemmas.Okkhor
import RitiModel.Lemmas.RegexTotal
import RitiModel.Props.Regex
namespace Riti.Regex
open Riti Riti.Gen

/-! ### the table check -/

open Lean Meta in
/-- `"literal".toList ↦ [characters]`, justified by the THEOREM `String.toList_ofList` (the kernel only has to expand the
    literal) instead of letting the kernel run the UTF-8 decoder inside `String.toList`, which costs gigabytes on the
    166 long literals of the table.  Proof-producing: what it returns is checked by the kernel like any `simp` step. -/
simproc strLitToList (String.toList _) := fun e => do
  let_expr String.toList s := e | return .continue
  let .lit (.strVal str) := s | return .continue
  let l := toExpr str.toList
  return .done { expr := l, proof? := some (mkApp (mkConst ``String.toList_ofList) l) }

/-- `strNats` with a name `simp` does not look into -/
def nats (l : List Char) : List Nat := l.map Char.toNat
theorem strNats_eq (s : String) : strNats s = nats s.toList := rfl

set_option maxRecDepth 100000 in
/-- every replacement text (default and conditional) of the regenerated `REGEX_PATTERNS` is read completely by `parseCat`
    as a sequence of items -/
theorem rxPatterns_closedChk :
    rxPatterns.all (fun p => closedChk (natsToChars p.dflt) &&
      p.rules.all (fun r => closedChk (natsToChars r.2))) = true := by
  unfold rxPatterns okkhorRegexPatterns
  simp only [List.map_cons, List.map_nil, strNats_eq, strLitToList]
  decide +kernel

/-- so is the `EXTRA` suffix appended after every pattern -/
theorem extra_closedChk : closedChk okkhorRegexExtra.toList = true := by
  unfold okkhorRegexExtra
  simp only [strLitToList]
  decide +kernel

set_option maxRecDepth 100000 in
/-- the table is not trivial: 167 patterns, one of them with a conditional replacement -/
example : rxPatterns.length = 167 ∧ (rxPatterns.filter (fun p => !p.rules.isEmpty)).length = 1 := by
  decide +kernel

theorem rxPatterns_closed {p : OkPattern} (hp : p ∈ rxPatterns) {r : List Nat} (hr : r ∈ p.dflt :: p.rules.map Prod.snd) :
    Closed (natsToChars r) := by
  have h := List.all_eq_true.1 rxPatterns_closedChk p hp
  rw [Bool.and_eq_true] at h
  rcases List.mem_cons.1 hr with rfl | hr
  · exact closed_of_chk h.1
  · obtain ⟨q, hq, rfl⟩ := List.mem_map.1 hr
    exact closed_of_chk (List.all_eq_true.1 h.2 q hq)

/-! ### the characters copied verbatim -/

/-- every character with a special meaning in an expression is ASCII punctuation … -/
theorem rxSpecial_punct {c : Char} (h : rxSpecial c = true) : isAsciiPunct c = true :=
  (by decide : ∀ c ∈ rxSpecials, isAsciiPunct c = true) c (rxSpecial_mem h)

/-- … so after the removal of ASCII punctuation and lower-casing no character of the input is special -/
theorem input_not_special (raw : List Char) :
    ∀ c ∈ (raw.filter (fun c => !isAsciiPunct c)).map asciiLower, rxSpecial c = false := by
  intro c hc
  obtain ⟨d, hd, rfl⟩ := List.mem_map.1 hc
  -- lower-casing gives the character itself or a lower-case letter: not ASCII punctuation either way
  have hp : isAsciiPunct (asciiLower d) = false := by
    rcases asciiLower_cases d with e | h
    · rw [e]; simpa using (List.mem_filter.1 hd).2
    · simp only [isAsciiPunct, Bool.or_eq_false_iff, Bool.and_eq_false_iff, decide_eq_false_iff_not]; omega
  exact Bool.eq_false_iff.2 fun hs => Bool.eq_false_iff.1 hp (rxSpecial_punct hs)

/-! ### the generator loop -/

/-- the loop of `convert_regex_into` only ever appends closed texts: a replacement followed by `EXTRA`, or one
    non-special character -/
theorem rxLoop_closed (pats : List OkPattern) (extra : List Char)
    (hp : ∀ p ∈ pats, ∀ r ∈ p.dflt :: p.rules.map Prod.snd, Closed (natsToChars r)) (he : Closed extra)
    (fuel : Nat) (input : List Char) (pre : Char) (out : List Char) :
      (∀ c ∈ input, rxSpecial c = false) → Closed out → Closed (rxLoop pats extra fuel input pre out) := by
  fun_induction rxLoop pats extra fuel input pre out with
  | case1 | case2 => exact fun _ ho => ho
  | case3 _ c cs _ out p hf rest _ _ ih =>
    exact fun hi ho => ih (fun d hd => hi d (List.mem_of_mem_drop hd))
      (closed_append (closed_append ho (hp p (okFindPattern_spec hf).1 _ (okReplacement_mem p _ _))) he)
  | case4 _ c cs _ out _ ih =>
    exact fun hi ho => ih (fun d hd => hi d (List.mem_cons_of_mem _ hd)) (closed_append ho (closed_lit (hi c (List.mem_cons_self ..))))

/-- the body of the expression generated for ANY typed word is a closed text -/
theorem rxBody_closed (raw : List Char) : Closed (rxBody rxPatterns okkhorRegexExtra.toList raw) := by
  unfold rxBody
  exact rxLoop_closed _ _ (fun p hp r hr => rxPatterns_closed hp hr) (closed_of_chk extra_closedChk) _ _ _ _
    (input_not_special raw) closed_nil

/-! ### totality -/

theorem parseAnchored_anchors (b : List Char) : parseAnchored ('^' :: b ++ ['$']) = parseRx b := by
  show parseAnchored ('^' :: (b ++ ['$'])) = parseRx b
  unfold parseAnchored
  simp

/-- TOTALITY OF THE READER ON GENERATED EXPRESSIONS: whatever is typed (any characters, any length), the expression that
    okkhor generates is inside the fragment of the syntax that the model reads -/
theorem parseAnchored_rxString_isSome (w : List Char) : (parseAnchored (rxString w)).isSome = true := by
  unfold rxString
  rw [parseAnchored_anchors]
  exact parseRx_of_closed (rxBody_closed w)

/-- the look-up always answers inside the model: the `none` of `dictSearch` is unreachable (the remaining source of "no
    answer" in the real system is the size limit of the `regex` crate, which is outside `dictSearch`) -/
theorem dictSearch_isSome (dict : String → List (List Char)) (w : List Char) : (dictSearch dict w).isSome = true :=
  Option.isSome_iff_ne_none.2 fun h =>
    Option.isSome_iff_ne_none.1 (parseAnchored_rxString_isSome w) ((dictSearch_none_iff dict w).1 h)

/-- the specification of the look-up, now for EVERY word: the candidates are exactly (in order, with multiplicity) the
    words of the selected tables that belong to the language of the generated expression -/
theorem dictSearch_total (dict : String → List (List Char)) (w : List Char) :
    ∃ r, parseAnchored (rxString w) = some r ∧ rxString w = '^' :: r.render ++ ['$'] ∧
      dictSearch dict w = some (((tablesFor phoneticTables w).flatMap dict).filter r.matches) ∧
      ∀ c, c ∈ ((tablesFor phoneticTables w).flatMap dict).filter r.matches ↔
        (∃ t ∈ tablesFor phoneticTables w, c ∈ dict t) ∧ Lang r c := by
  obtain ⟨ws, hws⟩ := Option.isSome_iff_exists.1 (dictSearch_isSome dict w)
  obtain ⟨r, hp, hr, rfl⟩ := dictSearch_eq_filter hws
  exact ⟨r, hp, hr, hws, fun c => by simp only [List.mem_filter, List.mem_flatMap, matches_iff]⟩

/-- a word that does not start with a lower-case ASCII letter gets exactly the empty answer -/
theorem dictSearch_nonletter_eq (dict : String → List (List Char)) (w : List Char)
    (h : w = [] ∨ ∃ c t, w = c :: t ∧ ¬ ('a' ≤ c ∧ c ≤ 'z')) : dictSearch dict w = some [] :=
  (dictSearch_nonletter dict w h).resolve_right (Option.isSome_iff_ne_none.1 (dictSearch_isSome dict w))

/-! ### samples -/

/-- instances of the two theorems above (`Sesh`: lower-cased first; `a1`: a digit pattern; `a b`: a raw space) -/
example : (parseAnchored (rxString "ami".toList)).isSome = true := parseAnchored_rxString_isSome _
example : (parseAnchored (rxString "k".toList)).isSome = true := parseAnchored_rxString_isSome _
example : (parseAnchored (rxString "Sesh".toList)).isSome = true := parseAnchored_rxString_isSome _
example : (parseAnchored (rxString "a1".toList)).isSome = true := parseAnchored_rxString_isSome _
example : (parseAnchored (rxString "a b".toList)).isSome = true := parseAnchored_rxString_isSome _
example : (parseAnchored (rxString "bissoy".toList)).isSome = true := parseAnchored_rxString_isSome _
example : (parseAnchored (rxString [])).isSome = true := parseAnchored_rxString_isSome _
/-- `Sesh` (capital first letter) finds nothing although `sesh` finds two words -/
example : dictSearch tinyDict "Sesh".toList = some [] :=
  dictSearch_nonletter_eq _ _ (.inr ⟨_, _, String.toList_ofList, by decide⟩)

end Riti.Regex
