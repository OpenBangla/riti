/-
Props/C14 — old vowel-sign ("kar") order.  With the option on, typing each syllable in typewriter
order (ি ে ৈ before the consonant or conjunct, ো / ৌ as ে before plus া / ৌ / ৗ after) gives exactly
the composed text of the same syllables typed in Unicode order with the option off; a sign that is
waiting for its consonant is not shown, counts as an ongoing session and is discarded by one
backspace.  Helper lemmas and the syllable language live in Lemmas/KarOrder.
`rbuf` is the REVERSED buffer; `FState.buffer` the text as the user sees it.
-/
import RitiModel.Lemmas.KarOrder
namespace Riti.C14
open Riti Riti.Gen

/-! ## 1. The waiting sign: hidden, a session, one backspace -/

/-- a left-standing sign (ি ে ৈ) typed with the option on, when the text does not end in a hasanta,
    is captured: only the `pending_kar` field changes -/
theorem pending_hidden_state (cfg : Cfg) (hon : cfg.fixedKarOrder = true) (s : FState) (k : Char)
    (hk : k = cIKar ∨ k = cEKar ∨ k = cOIKar) (hh : s.rbuf.head? ≠ some cHasanta) :
    processKeyValue cfg s [k] = { s with pending := some k } := by
  rw [processKeyValue_eq, pkv_capture cfg hon ((isLeftStandingKar_iff k).mpr hk) (headD_ne_hasanta hh)]
  rfl

/-- in particular the pre-edit text is unchanged, and the sign waits -/
theorem pending_hidden (cfg : Cfg) (hon : cfg.fixedKarOrder = true) (s : FState) (k : Char)
    (hk : k = cIKar ∨ k = cEKar ∨ k = cOIKar) (hh : s.rbuf.head? ≠ some cHasanta) :
    (processKeyValue cfg s [k]).rbuf = s.rbuf ∧ (processKeyValue cfg s [k]).pending = some k ∧
    (processKeyValue cfg s [k]).buffer = s.buffer := by
  rw [pending_hidden_state cfg hon s k hk hh]
  exact ⟨rfl, rfl, rfl⟩

/-- the other way a sign comes to wait: the hasanta key typed directly after a left-standing sign
    (the user goes on to build a conjunct) takes the sign OFF the pre-edit text — it shows `…স্`, not
    `…সি্` — until the next consonant arrives -/
theorem pending_hidden_conjunct (cfg : Cfg) (hon : cfg.fixedKarOrder = true) (s : FState) (k : Char)
    (r : Str) (hk : k = cIKar ∨ k = cEKar ∨ k = cOIKar) (hs : s.rbuf = k :: r) :
    (processKeyValue cfg s [cHasanta]).buffer = r.reverse ++ [cHasanta] ∧
    (processKeyValue cfg s [cHasanta]).pending = some k := by
  rw [processKeyValue_eq, hs, pkv_hasanta_left cfg hon ((isLeftStandingKar_iff k).mpr hk)]
  exact ⟨by simp [FState.buffer, FState.put], rfl⟩

/-- … and the next consonant brings it back, after the consonant -/
theorem pending_released (cfg : Cfg) (hon : cfg.fixedKarOrder = true) (s : FState) (k c : Char)
    (hp : s.pending = some k) (hc : isPureConsonant c = true) :
    (processKeyValue cfg s [c]).buffer = s.buffer ++ [c, k] ∧ (processKeyValue cfg s [c]).pending = none := by
  have f := consFacts hc
  rw [processKeyValue_eq, hp, pkv_plain_pending cfg hon f.kar f.hasanta f.lengthMark]
  exact ⟨by simp [FState.buffer, FState.put], rfl⟩

/-- a waiting sign counts as an ongoing input session, even on an empty text -/
theorem pending_is_session (s : FState) (h : s.pending.isSome = true) : fOngoing s = true := by
  simp [fOngoing, h]

/-- one plain backspace discards the waiting sign and nothing else: the text is untouched; the
    session goes on (a suggestion is built) exactly when there is text -/
theorem pending_one_backspace (s : FState) (h : s.pending.isSome = true) :
    (fBackspaceState s false).1.rbuf = s.rbuf ∧ (fBackspaceState s false).1.pending = none ∧
    (fBackspaceState s false).2 = !s.rbuf.isEmpty ∧
    fOngoing (fBackspaceState s false).1 = !s.rbuf.isEmpty := by
  rcases s with ⟨u, t, p, sg⟩
  simp only at h
  cases u <;> simp [fBackspaceState, h, fOngoing]

/-- ctrl-backspace discards the waiting sign too (together with the whole word, if there is one) -/
theorem pending_ctrl_backspace (s : FState) (h : s.pending.isSome = true) :
    (fBackspaceState s true).1.rbuf = [] ∧ (fBackspaceState s true).1.pending = none := by
  rcases s with ⟨u, t, p, sg⟩
  simp only at h
  cases u <;> simp [fBackspaceState, h]

/-- capture then one backspace is the identity on text and waiting sign (from a state where
    nothing was waiting) -/
theorem capture_then_backspace (cfg : Cfg) (hon : cfg.fixedKarOrder = true) (s : FState) (k : Char)
    (hk : k = cIKar ∨ k = cEKar ∨ k = cOIKar) (hh : s.rbuf.head? ≠ some cHasanta) (hp : s.pending = none) :
    (fBackspaceState (processKeyValue cfg s [k]) false).1.rbuf = s.rbuf ∧
    (fBackspaceState (processKeyValue cfg s [k]) false).1.pending = s.pending := by
  obtain ⟨h1, h2, _⟩ := pending_hidden cfg hon s k hk hh
  obtain ⟨h3, h4, _⟩ := pending_one_backspace (processKeyValue cfg s [k]) (by simp [h2])
  exact ⟨h3.trans h1, h4.trans hp.symm⟩

/-! ## 2. The Rust test `test_old_kar_order`, assertion by assertion -/

/-- `get_fixed_method_defaults()` with `set_fixed_old_kar_order(true)` -/
def testCfg : Cfg :=
  { fixedSuggestion := true, fixedVowel := true, fixedChandra := true, fixedKar := true,
    fixedNumpad := true, fixedOldReph := true, fixedKarOrder := true }

/-- `method.buffer = b; process_key_value(k₁); …; method.buffer` -/
def run (cfg : Cfg) (b : String) (keys : List String) : Str :=
  (typeAll cfg (keys.map String.toList) { rbuf := b.toList.reverse }).buffer

example : run testCfg "" ["ৈ", "ক"] = "কৈ".toList := by decide +kernel
example : run testCfg "তে" ["া"] = "তো".toList := by decide +kernel
example : run testCfg "মে" ["ৌ"] = "মৌ".toList := by decide +kernel
example : run testCfg "মে" ["ৗ"] = "মৌ".toList := by decide +kernel
example : run testCfg "সি" ["্", "ক"] = "স্কি".toList := by decide +kernel
example : run testCfg "" ["ি", "স", "্", "ট", "ম"] = "স্টিম".toList := by decide +kernel
example : run testCfg "তি" ["্র"] = "ত্রি".toList := by decide +kernel
example : run testCfg "তি" ["্য"] = "ত্যি".toList := by decide +kernel

/-- "Backspace" block 1: ে on an empty text, backspace → empty suggestion, text and raw keys empty -/
example :
    let r := fBackspaceState (processKeyValue testCfg {} "ে".toList) false
    r.2 = false ∧ r.1.rbuf = [] ∧ r.1.rtyped = [] ∧ r.1.pending = none := by decide +kernel

/-- block 2: ক then ি, backspace → a non-empty suggestion, the text is still ক -/
example :
    let r := fBackspaceState (processKeyValue testCfg { rbuf := "ক".toList } "ি".toList) false
    r.2 = true ∧ r.1.buffer = "ক".toList ∧ r.1.pending = none := by decide +kernel

/-- block 3: ক, backspace → empty suggestion, text and raw keys empty -/
example :
    let r := fBackspaceState { rbuf := "ক".toList } false
    r.2 = false ∧ r.1.rbuf = [] ∧ r.1.rtyped = [] := by decide +kernel

/-- "Vowel making with Hasanta" -/
example : run testCfg "ক" ["্", "ি"] = "কই".toList := by decide +kernel
example : run testCfg "কে" ["্", "ু"] = "কেউ".toList := by decide +kernel
/-- "Automatic Vowel Forming" -/
example : run testCfg "" ["ে", "ো"] = "এও".toList := by decide +kernel
/-- "With Old style Reph" -/
example : run testCfg "দ" ["ি", "জ", "র্"] = "দর্জি".toList := by decide +kernel
/-- "Without Old style Reph" -/
example : run { testCfg with fixedOldReph := false } "দ" ["ি", "র্", "জ"] = "দর্জি".toList := by decide +kernel

/-! ## 3. The one failing class: র + zo-fola with an early sign -/

/-- the 8 settings of automatic vowel forming / automatic chandrabindu / traditional joining -/
def eightCfgs : List Cfg :=
  [false, true].flatMap fun a => [false, true].flatMap fun b => [false, true].map fun c =>
    { fixedVowel := a, fixedChandra := b, fixedKar := c }

/-- the five signs typewriter order starts before the cluster -/
def earlySigns : List Char := [cIKar, cEKar, cOIKar, cOKar, cOUKar]

/-- COUNTER-EXAMPLE to the full-strength statement.  The syllable র + zo-fola ("ry", as in র‍্যাব)
    with one of ি ে ৈ ো ৌ: Unicode order gives `র ZWJ ্ য sign` (the zo-fola key sees the র and
    inserts the ZWJ that keeps it from becoming a reph), typewriter order gives `র ্ য sign` — the
    zo-fola key sees the SIGN that was already put after the র, so no ZWJ, and the text renders as
    reph + য.  In all 8 settings, for all 5 signs and both spellings of ৌ; the syllable is well-formed. -/
theorem old_order_differs_ra_zofola :
    ∀ cfg ∈ eightCfgs, ∀ k ∈ earlySigns, ∀ lm ∈ [false, true],
      let syl := Syl.cons cR [.zoFola] (some k) false
      syl.wf = true ∧ syl.raZofola = true ∧
      (typeAll { cfg with fixedKarOrder := true } (typewriterKeys lm syl) {}).buffer = [cR, cHasanta, cZ, k] ∧
      (typeAll { cfg with fixedKarOrder := false } (unicodeKeys syl) {}).buffer = [cR, cZWJ, cHasanta, cZ, k] := by
  decide +kernel

/-- the same as key strokes: typing ে র ্য (typewriter order) gives র্যে, typing র ্য ে (Unicode order)
    gives র‍্যে -/
example :
    run { fixedKarOrder := true } "" ["ে", "র", "্য"] = "র্যে".toList ∧
    run {} "" ["র", "্য", "ে"] = "র\u200d্যে".toList ∧
    typewriterKeys false (.cons cR [.zoFola] (some cEKar) false) = ["ে", "র", "্য"].map String.toList ∧
    unicodeKeys (.cons cR [.zoFola] (some cEKar) false) = ["র", "্য", "ে"].map String.toList := by decide +kernel

/-- the FULL-strength equivalence (every well-formed word) is FALSE of the code -/
theorem old_order_equiv_full_false :
    ¬ ∀ (cfg : Cfg) (lm : Bool) (w : List Syl), (∀ syl ∈ w, syl.wf = true) →
        (typeAll { cfg with fixedKarOrder := true } (w.flatMap (typewriterKeys lm)) {}).rbuf =
          (typeAll { cfg with fixedKarOrder := false } (w.flatMap unicodeKeys) {}).rbuf := by
  intro h
  have := h {} false [.cons cR [.zoFola] (some cEKar) false] (by decide)
  revert this
  decide +kernel

/-! ## 4. The equivalence -/

/-- PARTIAL (the spelling `lm x` of ৌ chosen per syllable `syl x`, any starting text): from any state with
    nothing waiting and a text that does not end in a hasanta, typing the word in typewriter order with the
    option on and typing it in Unicode order with the option off lead to the SAME state: same text, nothing
    waiting (the raw-key log is kept by the caller, `process_key_value` does not touch it).  Excluded: syllables
    of the class `Syl.raZofola` (র + zo-fola first join + one of ি ে ৈ ো ৌ), see `old_order_differs_ra_zofola`.
    No assumption on the other 10 options (the reph key is not part of the syllable language, so old-style
    reph does not matter). -/
theorem old_order_equiv_from_partial {α : Type} (cfg : Cfg) (s : FState) (hp : s.pending = none)
    (hh : s.rbuf.head? ≠ some cHasanta) (lm : α → Bool) (syl : α → Syl) (w : List α)
    (hw : ∀ x ∈ w, (syl x).wf = true) (hx : ∀ x ∈ w, (syl x).raZofola = false) :
    typeAll { cfg with fixedKarOrder := true } (w.flatMap fun x => typewriterKeys (lm x) (syl x)) s =
      typeAll { cfg with fixedKarOrder := false } ((w.map syl).flatMap unicodeKeys) s := by
  rw [typeAll_eq, typeAll_eq, hp,
    word_run_typewriter { cfg with fixedKarOrder := true } rfl lm syl w (fun x h => ⟨hw x h, hx x h⟩) (headD_ne_hasanta hh),
    word_run_unicode { cfg with fixedKarOrder := false } rfl none (w.map syl)
      (by intro y hy; obtain ⟨x, h, rfl⟩ := List.mem_map.mp hy; exact hw x h)]

/-- what that text is: the syllables in storage order — consonant, joins (hasanta + consonant; a ZWJ
    before a zo-fola that directly follows an unjoined র), sign (after a ZWNJ for ু ূ ৃ under
    traditional joining), chandrabindu.  Automatic vowel forming and automatic chandrabindu never
    fire inside a well-formed word. -/
theorem unicode_order_text (cfg : Cfg) (hoff : cfg.fixedKarOrder = false) (s : FState) (w : List Syl)
    (hw : ∀ syl ∈ w, syl.wf = true) :
    typeAll cfg (w.flatMap unicodeKeys) s = { s with rbuf := wordR cfg.fixedKar s.rbuf w } := by
  rw [typeAll_eq, word_run_unicode cfg hoff _ w hw]
  rfl

/-- the same for typewriter order: the composed text is `wordR` (same exclusion) -/
theorem typewriter_order_text_partial (cfg : Cfg) (hon : cfg.fixedKarOrder = true) (s : FState)
    (hp : s.pending = none) (hh : s.rbuf.head? ≠ some cHasanta) (lm : Bool) (w : List Syl)
    (hw : ∀ syl ∈ w, syl.wf = true) (hx : ∀ syl ∈ w, syl.raZofola = false) :
    typeAll cfg (w.flatMap (typewriterKeys lm)) s = { s with rbuf := wordR cfg.fixedKar s.rbuf w } := by
  have := word_run_typewriter cfg hon (fun _ => lm) id w (fun syl hs => ⟨hw syl hs, hx syl hs⟩) (headD_ne_hasanta hh)
  rw [List.map_id] at this
  rw [typeAll_eq, hp]
  exact congrArg s.put this

/-- PARTIAL — the main statement.  For every word of well-formed syllables, every setting of the
    other options (in particular all 8 of automatic vowel / automatic chandrabindu / traditional
    joining) and either spelling `lm` of ৌ, starting from the empty state: typewriter order with the
    option on composes exactly the text that Unicode order composes with the option off, and no sign
    is left waiting.  The induction over the joins of a cluster is general (no bound on the length of
    a conjunct).  Automatic vowel forming needs no side condition: in typewriter order a sign typed
    at the start of the text or after a vowel is captured BEFORE the automatic-vowel test, in Unicode
    order it follows its consonant, so neither order ever turns it into an independent vowel;
    traditional joining puts its ZWNJ before ু ূ ৃ in both orders.  Excluded: syllables with
    `raZofola` — first consonant র, first join the zo-fola key, sign one of ি ে ৈ ো ৌ — on which the
    code differs (`old_order_differs_ra_zofola`; exactly these: `old_order_syllable_iff`). -/
theorem old_order_equiv_partial (cfg : Cfg) (lm : Bool) (w : List Syl)
    (hw : ∀ syl ∈ w, syl.wf = true) (hx : ∀ syl ∈ w, syl.raZofola = false) :
    (typeAll { cfg with fixedKarOrder := true } (w.flatMap (typewriterKeys lm)) {}).rbuf =
      (typeAll { cfg with fixedKarOrder := false } (w.flatMap unicodeKeys) {}).rbuf ∧
    (typeAll { cfg with fixedKarOrder := true } (w.flatMap (typewriterKeys lm)) {}).pending = none := by
  have key := old_order_equiv_from_partial cfg {} rfl (by simp) (fun _ => lm) id w hw hx
  rw [List.map_id] at key
  exact ⟨congrArg FState.rbuf key,
    (congrArg FState.pending key).trans (by rw [unicode_order_text { cfg with fixedKarOrder := false } rfl {} w hw])⟩

/-- EXACTNESS of the exclusion, syllable by syllable: from any state with nothing waiting and a text
    that does not end in a hasanta, a well-formed syllable typed in typewriter order (option on)
    composes the same text as in Unicode order (option off) IF AND ONLY IF it is not in the class
    `raZofola`; in both cases nothing is left waiting.  So `old_order_equiv_partial` excludes no
    syllable it could have included. -/
theorem old_order_syllable_iff (cfg : Cfg) (s : FState) (hp : s.pending = none)
    (hh : s.rbuf.head? ≠ some cHasanta) (lm : Bool) (syl : Syl) (hw : syl.wf = true) :
    ((typeAll { cfg with fixedKarOrder := true } (typewriterKeys lm syl) s).rbuf =
      (typeAll { cfg with fixedKarOrder := false } (unicodeKeys syl) s).rbuf ↔ syl.raZofola = false) ∧
    (typeAll { cfg with fixedKarOrder := true } (typewriterKeys lm syl) s).pending = none := by
  obtain ⟨t, e, h⟩ := syl_run_typewriter { cfg with fixedKarOrder := true } rfl (headD_ne_hasanta hh) lm hw
  rw [typeAll_eq, typeAll_eq, hp, e, syl_run_unicode { cfg with fixedKarOrder := false } hw (by simp)]
  exact ⟨h, rfl⟩

/-! ## 5. Non-vacuity -/

/-- স্টিম, ক্রোঁ, ত্যৌ, আ, ।, র‍্যা, র্যু, কৃ — hasanta join with ি, ro-fola with ো and chandrabindu, zo-fola with ৌ,
    an independent vowel, a punctuation mark, র + zo-fola with a LATE sign (allowed: both orders insert
    the ZWJ), র + hasanta + য with ু, and a ligature sign (ZWNJ under traditional joining) -/
def sampleWord : List Syl :=
  [ .cons 'স' [.viaHasanta 'ট'] (some cIKar) false, .cons 'ম' [] none false,
    .cons 'ক' [.roFola] (some cOKar) true, .cons 'ত' [.zoFola] (some cOUKar) false,
    .indep cAA, .punct '।', .cons cR [.zoFola] (some cAAKar) false,
    .cons cR [.viaHasanta cZ] (some cUKar) false, .cons 'ক' [] (some cRRIKar) false ]

/-- the hypotheses of `old_order_equiv_partial` hold on `sampleWord` -/
example : (∀ syl ∈ sampleWord, syl.wf = true) ∧ (∀ syl ∈ sampleWord, syl.raZofola = false) := by decide +kernel

/-- the two key sequences really are different … -/
example : sampleWord.flatMap (typewriterKeys true) =
    ["ি", "স", "্", "ট", "ম", "ে", "ক", "্র", "া", "ঁ", "ে", "ত", "্য", "ৗ", "আ", "।", "র", "্য", "া",
     "র", "্", "য", "ু", "ক", "ৃ"].map String.toList ∧
    sampleWord.flatMap unicodeKeys =
    ["স", "্", "ট", "ি", "ম", "ক", "্র", "ো", "ঁ", "ত", "্য", "ৌ", "আ", "।", "র", "্য", "া",
     "র", "্", "য", "ু", "ক", "ৃ"].map String.toList := by decide +kernel

/-- … and the conclusion on it, computed: the same text in both orders, in the test configuration
    (automatic vowel, automatic chandrabindu, traditional joining all on) …
    (`String.toList_ofList` exposes the characters of the literal by unification; left to itself the kernel decodes
    its UTF-8 bytes, at a cost quadratic in the length) -/
example :
    (typeAll { testCfg with fixedKarOrder := true } (sampleWord.flatMap (typewriterKeys true)) {}).buffer =
      "স্টিমক্রোঁত্যৌআ।র\u200d্যার্য\u200cুক\u200cৃ".toList := by rw [String.toList_ofList]; decide +kernel
example :
    (typeAll { testCfg with fixedKarOrder := false } (sampleWord.flatMap unicodeKeys) {}).buffer =
      "স্টিমক্রোঁত্যৌআ।র\u200d্যার্য\u200cুক\u200cৃ".toList := by rw [String.toList_ofList]; decide +kernel
/-- … and with all three off -/
example :
    (typeAll { fixedKarOrder := true } (sampleWord.flatMap (typewriterKeys false)) {}).buffer =
      "স্টিমক্রোঁত্যৌআ।র\u200d্যার্যুকৃ".toList := by rw [String.toList_ofList]; decide +kernel
example :
    (typeAll {} (sampleWord.flatMap unicodeKeys) {}).buffer =
      "স্টিমক্রোঁত্যৌআ।র\u200d্যার্যুকৃ".toList := by rw [String.toList_ofList]; decide +kernel

/-- `wordR` is that text -/
example : (wordR true [] sampleWord).reverse = "স্টিমক্রোঁত্যৌআ।র\u200d্যার্য\u200cুক\u200cৃ".toList := by rw [String.toList_ofList]; decide +kernel

/-- `pending_hidden` / `pending_one_backspace` are not vacuous: ক, then ি with the option on -/
example :
    let s := processKeyValue { fixedKarOrder := true } { rbuf := ['ক'] } [cIKar]
    s.buffer = ['ক'] ∧ s.pending = some cIKar ∧ fOngoing s = true ∧
    (fBackspaceState s false).1.buffer = ['ক'] ∧ (fBackspaceState s false).1.pending = none := by decide +kernel

/-- a sign waiting on an EMPTY text is a session, and one backspace ends it -/
example :
    let s := processKeyValue { fixedKarOrder := true } {} [cEKar]
    s.buffer = [] ∧ fOngoing s = true ∧ fOngoing (fBackspaceState s false).1 = false := by decide +kernel

/-- the hypothesis "the text does not end in a hasanta" of `pending_hidden` is needed: after a hasanta
    the sign is NOT captured (it becomes an independent vowel, "Vowel making with Hasanta") -/
example :
    let s := processKeyValue { fixedKarOrder := true } { rbuf := "ক্".toList.reverse } [cIKar]
    s.buffer = "কই".toList ∧ s.pending = none := by decide +kernel

end Riti.C14
