/-
Props/C05 — in phonetic mode the suggestion shown for the current composition depends only on the
characters that survive in it, the configuration, the data files, the user auto-correct list and
the learned selections — not on the typing history, and not on what the context composed before
(warm memo, derived selection entries).

The proof is a refinement to a memo-free specification: `refresh_is_pure` says that what a context
shows once its composition has been set to `b` is `refreshSpec` of `b`, a function of the text, the
data, the configuration, the user auto-correct list and the store `S₀` as loaded or as of the last
learning commit.  It holds under the invariant `PInv` of reachable states (`Lemmas/PhoneticInv`;
memo: `SoundMemo`/`PrefixComplete`, store: `StoreSound`/`StoreComplete` relative to `S₀`, both of
`Lemmas/Transparency`).  C05 for contexts reached through the API (`c05_reachable_independent`) and
C06's comparison of a used context with a fresh one (`Props/C06Phonetic`) are its corollaries; the
two independence theorems about bare states are read off the step below it, `create_is_pure`.
-/
import RitiModel.Lemmas.PhoneticInv
namespace Riti.C05
open Riti Riti.Gen

/-! ### the memo-free specification of what is shown -/

/-- the specification of `create_suggestion` with suggestions on: candidate texts and order from the
    memo-free list, preselected index = position of the wrapped effective learned value.
    A function of data (`env`), configuration, user auto-correct list, store `S₀` and text only. -/
def suggestionPure (env : Env) (cfg : Cfg) (ua S₀ : Store) (b : Str) : Sugg :=
  let parts := preparedParts env cfg b
  let l := suggestListPure env ua cfg b
  let target := wrapText parts.pre parts.trail ((effSel env S₀ parts.word).getD [])
  .full b (l.map Rank.text) ((l.findIdx? (fun r => r.text == target)).getD 0) cfg.ansi

def candTexts : Sugg → List Str
  | .full _ l _ _ => l
  | .single s _ => [s]

/-- the specification of what is shown after the composition has been set to `b` (`pRefresh`):
    nothing for the empty composition; else `suggestionPure`, or with suggestions off the plain
    transliteration.  A function of data, configuration, user auto-correct list, `S₀` and text. -/
def refreshSpec (env : Env) (cfg : Cfg) (ua S₀ : Store) (b : Str) : Sugg :=
  if b.isEmpty then Sugg.empty
  else if cfg.phoneticSuggestion then suggestionPure env cfg ua S₀ b
  else .single (suggestOnlyPhonetic env b) cfg.ansi

/-! ### `create_suggestion` refines the specification -/

/-- FULL REFINEMENT: with suggestions on, what `create_suggestion` returns — candidate texts, order
    and preselected index — is `suggestionPure` of the composition -/
theorem create_is_pure (env : Env) (cfg : Cfg) (S₀ : Store) (s : PState) (hon : cfg.phoneticSuggestion = true)
    (h : PreInv env s) (hs : PreSelInv env S₀ s) :
    (pCreateSuggestion env cfg s).2 = suggestionPure env cfg s.userAutocorrect S₀ s.buffer := by
  rw [pCreate_on env cfg s hon, create_list_pure cfg h, create_index_pure cfg h hs]
  rfl

/-! ### history independence -/

/-- C05 (candidate list): two phonetic states with sound memos that have seen the shorter prefixes
    (every reachable state, see `Reach.pinv`), holding the same composition under the same user
    auto-correct list, show the same candidate texts in the same order — whatever else their memos
    and selection stores contain -/
theorem c05_history_independent (env : Env) (cfg : Cfg) (s₁ s₂ : PState)
    (hon : cfg.phoneticSuggestion = true) (h₁ : PreInv env s₁) (h₂ : PreInv env s₂)
    (hb : s₁.buffer = s₂.buffer) (hu : s₁.userAutocorrect = s₂.userAutocorrect) :
    candTexts (pCreateSuggestion env cfg s₁).2 = candTexts (pCreateSuggestion env cfg s₂).2 ∧
    (pCreateSuggestion env cfg s₁).1.suggestions = (pCreateSuggestion env cfg s₂).1.suggestions := by
  have e : (suggest env cfg s₁ s₁.buffer).2.1 = (suggest env cfg s₂ s₂.buffer).2.1 := by
    rw [create_list_pure cfg h₁, create_list_pure cfg h₂, hb, hu]
  rw [pCreate_on env cfg s₁ hon, pCreate_on env cfg s₂ hon]
  exact ⟨congrArg (List.map Rank.text) e, e⟩

/-- C05 (whole suggestion, preselected index included): if moreover both selection stores extend
    the same loaded/learned store `S₀` by derived entries only (every reachable state without a
    learning commit in between, see `Reach.pinv`), the two suggestions are EQUAL -/
theorem c05_selection_independent (env : Env) (cfg : Cfg) (S₀ : Store) (s₁ s₂ : PState)
    (hon : cfg.phoneticSuggestion = true) (h₁ : PreInv env s₁) (h₂ : PreInv env s₂)
    (hs₁ : PreSelInv env S₀ s₁) (hs₂ : PreSelInv env S₀ s₂)
    (hb : s₁.buffer = s₂.buffer) (hu : s₁.userAutocorrect = s₂.userAutocorrect) :
    (pCreateSuggestion env cfg s₁).2 = (pCreateSuggestion env cfg s₂).2 := by
  rw [create_is_pure env cfg S₀ s₁ hon h₁ hs₁, create_is_pure env cfg S₀ s₂ hon h₂ hs₂, hb, hu]

/-! ### the API events refine their specifications -/

/-- what is shown after the composition has been set to a text `b` whose proper prefixes were all
    visited is `refreshSpec` of `b`: a function of the surviving characters -/
theorem refresh_is_pure {env : Env} {cfg : Cfg} {S₀ : Store} {s : PState} (h : PInv env cfg S₀ s) {b : Str}
    (hb : b.dropLast <+: s.buffer) :
    (pRefresh env cfg { s with buffer := b }).2 = refreshSpec env cfg s.userAutocorrect S₀ b := by
  unfold refreshSpec
  rcases pRefresh_cases env cfg { s with buffer := b } with ⟨he, e⟩ | ⟨hne, hoff, e⟩ | ⟨hne, hon, e⟩ <;> rw [e]
  · rw [if_pos (List.isEmpty_iff.mpr he)]
  · rw [if_neg (fun h => hne (List.isEmpty_iff.mp h)), hoff]; rfl
  · rw [if_neg (fun h => hne (List.isEmpty_iff.mp h)), if_pos hon]
    exact create_is_pure env cfg S₀ _ hon ⟨h.memo.1, (h.memo.2 hon).mono hb⟩ ⟨h.store.1, (h.store.2 hon).mono hb⟩

/-- a key press returns the specification for the composition with the typed character appended;
    the punctuation keys that keep the caller's selection put it in place of the preselected index -/
theorem key_is_pure {env : Env} {cfg : Cfg} {S₀ : Store} {s : PState} (h : PInv env cfg S₀ s) (key sel : Nat) :
    (pKey env cfg s key sel).2 =
      (refreshSpec env cfg s.userAutocorrect S₀ (keyBuffer s.buffer key)).mapIndex (keyIndex key sel) := by
  rw [pKey_eq, refresh_is_pure h (keyBuffer_dropLast_prefix _ _)]

/-- a backspace returns the specification for the shortened (ctrl: emptied) composition -/
theorem backspace_is_pure {env : Env} {cfg : Cfg} {S₀ : Store} {s : PState} (h : PInv env cfg S₀ s) (ctrl : Bool) :
    (pBackspace env cfg s ctrl).2 =
      refreshSpec env cfg s.userAutocorrect S₀ (if ctrl then [] else s.buffer.dropLast) := by
  rw [pBackspace_eq, refresh_is_pure h (backspace_dropLast_prefix _ _)]

/-! ### states reachable through the API: the invariant holds, hence C05 for them -/

/-- phonetic states reachable through the API.  Indices: the configuration in force and the
    selection store as loaded / as of the last learning commit.  `update_engine` (which may change
    the options and reload the user auto-correct list) is only taken while idle. -/
inductive Reach (env : Env) : Cfg → Store → PState → Prop
  | new (cfg : Cfg) (fs : FS) : Reach env cfg (fs.sel.content) (pNew fs)
  | key {cfg S₀ s} (key sel : Nat) : Reach env cfg S₀ s → Reach env cfg S₀ (pKey env cfg s key sel).1
  | backspace {cfg S₀ s} (ctrl : Bool) : Reach env cfg S₀ s → Reach env cfg S₀ (pBackspace env cfg s ctrl).1
  | commitKeep {cfg S₀ s s'} (i : Nat) : Reach env cfg S₀ s → pCommit cfg s i = .ok (s', none) → Reach env cfg S₀ s'
  | commitLearn {cfg S₀ s s'} (i : Nat) (st : Store) :
      Reach env cfg S₀ s → pCommit cfg s i = .ok (s', some st) → Reach env cfg s'.selections s'
  | finish {cfg S₀ s} : Reach env cfg S₀ s → Reach env cfg S₀ (pFinish s)
  | update {cfg S₀ s} (cfg' : Cfg) (fs : FS) : Reach env cfg S₀ s → s.buffer = [] → Reach env cfg' S₀ (pUpdate fs s)

/-- INVARIANT: every reachable phonetic state has a sound, prefix-complete memo, a selection store
    that extends `S₀` by effective (derived) values only, complete for the prefixes, and holds the
    memo-free list and index of its composition -/
theorem Reach.pinv {env : Env} {cfg : Cfg} {S₀ : Store} {s : PState} (r : Reach env cfg S₀ s) :
    PInv env cfg S₀ s := by
  induction r with
  | new cfg fs => exact PInv.new env cfg fs
  | key key sel _ ih => exact ih.key key sel
  | backspace ctrl _ ih => exact ih.backspace ctrl
  | commitKeep i _ hc ih => exact ih.commit_getD hc
  | commitLearn i st _ hc ih => exact ih.commit hc
  | finish _ ih => exact ih.finish
  | update cfg' fs _ hb ih => exact ih.update cfg' fs hb

/-- every character of the composition of a reachable state was typed by a key (the other calls shorten it) -/
theorem Reach.buffer_all {P : Char → Prop} (hkey : ∀ {k c}, keycodeToChar k = some c → P c) {env : Env} {cfg : Cfg}
    {S₀ : Store} {s : PState} (r : Reach env cfg S₀ s) : ∀ c ∈ s.buffer, P c := by
  have hnil : ∀ c ∈ ([] : Str), P c := nofun
  induction r with
  | new cfg fs => exact hnil
  | key key sel _ ih => rw [pKey_buffer]; exact keyBuffer_all hkey ih key
  | backspace ctrl _ ih =>
    rw [pBackspace_buffer]
    cases ctrl
    · exact fun c hc => ih c ((List.dropLast_sublist _).subset hc)
    · exact hnil
  | commitKeep i _ hc ih => rw [(pCommit_ok hc).1]; exact hnil
  | commitLearn i st _ hc ih => rw [(pCommit_ok hc).1]; exact hnil
  | finish _ ih => exact hnil
  | update cfg' fs _ hb ih => rw [pUpdate_buffer]; exact ih

/-- C05 for reachable contexts: two contexts — brand-new or warm, whatever they composed before —
    that hold the same composition under the same options, user auto-correct list and
    loaded/learned store answer the next key press and the next backspace with EQUAL suggestions
    (texts, order, preselected index).  Since the suggestion currently shown is the answer to the
    last such event (`key_is_pure`, `backspace_is_pure`), it is a function of the surviving text. -/
theorem c05_reachable_independent (env : Env) (cfg : Cfg) (S₀ : Store) (s₁ s₂ : PState)
    (r₁ : Reach env cfg S₀ s₁) (r₂ : Reach env cfg S₀ s₂)
    (hb : s₁.buffer = s₂.buffer) (hu : s₁.userAutocorrect = s₂.userAutocorrect) :
    (∀ key sel, (pKey env cfg s₁ key sel).2 = (pKey env cfg s₂ key sel).2) ∧
    (∀ ctrl, (pBackspace env cfg s₁ ctrl).2 = (pBackspace env cfg s₂ ctrl).2) :=
  ⟨fun key sel => by rw [key_is_pure r₁.pinv, key_is_pure r₂.pinv, hb, hu],
   fun ctrl => by rw [backspace_is_pure r₁.pinv, backspace_is_pure r₂.pinv, hb, hu]⟩

/-- `Reach` is closed under the API (`step`): from a reachable phonetic state every event — an
    `update` only while idle — leads, if the context is still phonetic, to a reachable state
    (for the new options and the store as of the last learning commit) -/
theorem step_reach (w : World) (c c' : Ctx) (fs fs' : FS) (e : Event) (o : Out) (S₀ : Store) (s s' : PState)
    (hm : c.m = .phonetic s) (r : Reach w.env c.cfg S₀ s)
    (hidle : ∀ cfg lp, e = .update cfg lp → s.buffer = [])
    (hst : step w c fs e = .ok (c', fs', o)) (hm' : c'.m = .phonetic s') :
    ∃ S₀', Reach w.env c'.cfg S₀' s' := by
  cases step_phonetic hm hst with
  | key code _ sel => cases hm'; exact ⟨S₀, r.key code sel⟩
  | backspace ctrl => cases hm'; exact ⟨S₀, r.backspace ctrl⟩
  | commit i s'' wr hc =>
    cases hm'
    cases wr with
    | none => exact ⟨S₀, r.commitKeep i hc⟩
    | some st => exact ⟨_, r.commitLearn i st hc⟩
  | finish => cases hm'; exact ⟨S₀, r.finish⟩
  | update cfg => cases hm'; exact ⟨S₀, r.update cfg fs (hidle _ _ rfl)⟩
  | switch cfg p m _ hn =>
    obtain ⟨_, rfl⟩ | ⟨_, l, _, rfl⟩ := mNew_cases hn <;> cases hm'
    exact ⟨_, .new cfg fs⟩
  | setFs _ => exact ⟨S₀, (MState.phonetic.inj (hm.symm.trans hm')) ▸ r⟩

/-! ### non-vacuity and the limit of the property -/

/-- a small world: `ab` has two dictionary hits, `c` is a known suffix (joined form `…Z`) -/
def wEnv : Env :=
  { convert := id
    dictPhonetic := fun w => if w == ['a', 'b'] then some [['x'], ['y']] else some []
    suffix := fun s => if s == ['c'] then some ['Z'] else none
    autocorrect := fun _ => none, emoticon := fun _ => none
    emojiByName := fun _ => none, emojiBengali := fun _ => none, bijoy := fun s => .ok s, fixedTable := fun _ => [] }

def wCfg : Cfg := { phoneticSuggestion := true }

def wFs : FS := { sel := .parsed [(['a', 'b'], ['y'])] }

def press (s : PState) (key : Nat) : PState := (pKey wEnv wCfg s key 0).1

/-- a brand-new context in which `a b` was typed -/
def freshAb : PState := press (press (pNew wFs) 41110) 41111

/-- a warm context: `a b c` typed and finished, then `a b d` and one backspace -/
def warmAb : PState :=
  (pBackspace wEnv wCfg (press (press (press (pFinish (press (press (press (pNew wFs) 41110) 41111) 41112))
    41110) 41111) 41113) false).1

theorem freshAb_reach : Reach wEnv wCfg [(['a', 'b'], ['y'])] freshAb :=
  .key 41111 0 (.key 41110 0 (.new wCfg wFs))

theorem warmAb_reach : Reach wEnv wCfg [(['a', 'b'], ['y'])] warmAb :=
  .backspace false (.key 41113 0 (.key 41111 0 (.key 41110 0 (.finish
    (.key 41112 0 (.key 41111 0 (.key 41110 0 (.new wCfg wFs))))))))

/-- NON-VACUITY: the fresh and the warm context are reachable, hold the same composition `ab`, but
    differ in memo (2 vs 4 entries) and selection store (the warm one holds the derived entry for
    `abc`); the hypotheses of `c05_reachable_independent`, `c05_selection_independent` and
    `c05_history_independent` hold for them, and the next key `c` is answered by both with the
    suffix candidates `xZ`, `yZ` and the derived preselection 1. -/
example :
    Reach wEnv wCfg [(['a', 'b'], ['y'])] freshAb ∧ Reach wEnv wCfg [(['a', 'b'], ['y'])] warmAb ∧
    freshAb.buffer = warmAb.buffer ∧ freshAb.userAutocorrect = warmAb.userAutocorrect ∧
    freshAb.cache.length = 2 ∧ warmAb.cache.length = 4 ∧
    freshAb.selections.length = 1 ∧ warmAb.selections.length = 2 ∧
    PreInv wEnv freshAb ∧ PreInv wEnv warmAb ∧
    (pKey wEnv wCfg freshAb 41112 0).2 = (pKey wEnv wCfg warmAb 41112 0).2 ∧
    (pKey wEnv wCfg freshAb 41112 0).2 =
      .full ['a', 'b', 'c'] [['x', 'Z'], ['y', 'Z'], ['a', 'b', 'c']] 1 false := by
  refine ⟨freshAb_reach, warmAb_reach, by decide, by decide, by decide, by decide, by decide, by decide,
    freshAb_reach.pinv.memo.pre, warmAb_reach.pinv.memo.pre, ?_, by decide⟩
  exact (c05_reachable_independent _ _ _ _ _ freshAb_reach warmAb_reach (by decide) (by decide)).1 41112 0

/-- the specification itself, evaluated: the derived preselection comes out of `effSel` -/
example : effSel wEnv [(['a', 'b'], ['y'])] ['a', 'b', 'c'] = some ['y', 'Z'] := by
  have h1 : effSel wEnv [(['a', 'b'], ['y'])] ['a', 'b'] = some ['y'] := effSel_of_stored _ _ _ _ (by decide)
  have hw : word ['a', 'b', 'c'] = ['a', 'b', 'c'] := by decide
  have hpts : (splitPoints ['a', 'b', 'c']).reverse = [(['a', 'b'], ['c']), (['a'], ['b', 'c'])] := by decide
  have hl : alookup [(['a', 'b'], ['y'])] ['a', 'b', 'c'] = none := by decide
  have hj : joinChecked ['y'] ['Z'] = some ['y', 'Z'] := by decide
  have hsfx : wEnv.suffix ['c'] = some ['Z'] := by decide
  rw [effSel_eq, hl, Option.none_or, if_pos ⟨hw, by decide⟩, hpts]
  simp only [prevSelLoopF, hsfx, h1, hj]

/-- LIMIT (why `Reach.update` is restricted to idle contexts): `update_engine` in the MIDDLE of a
    word, when it reloads the user auto-correct file, empties the memo although the composition
    stays; the prefixes typed so far are then missing and the suffix candidates built from them are
    lost.  Same composition `ab`, same (empty) user auto-correct list, same store — but the next
    key `c` is answered differently from a context that did not reload, and the invariant fails. -/
theorem update_midword_not_transparent :
    let s := freshAb
    let s' := pUpdate { ac := some (1, some []) } freshAb
    s'.buffer = s.buffer ∧ s'.userAutocorrect = s.userAutocorrect ∧ s'.selections = s.selections ∧
    (pKey wEnv wCfg s 41112 0).2 = .full ['a', 'b', 'c'] [['x', 'Z'], ['y', 'Z'], ['a', 'b', 'c']] 1 false ∧
    (pKey wEnv wCfg s' 41112 0).2 = .full ['a', 'b', 'c'] [['a', 'b', 'c']] 0 false ∧
    ¬ Inv wEnv true s' := by
  refine ⟨by decide, by decide, by decide, by decide, by decide, ?_⟩
  intro h
  -- the reload emptied the memo: the visited prefix `a` has no entry
  have := h.2 rfl ['a'] (by decide) (by decide)
  revert this
  decide

end Riti.C05
