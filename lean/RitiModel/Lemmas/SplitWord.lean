/-
Lemmas/SplitWord — the word part of a typed text, `word b = (split b false).word`, as a function.
The phonetic method looks the word part up and memoises under it, so the transparency theory (`Lemmas/Transparency`; C05,
C06) has to know which texts can be memo keys. Only fix-points of `word` can (`word_idem`, `nonfix_never_key`); and a
fix-point that is a proper prefix of `word t` is the word part of a proper prefix of `t`, that is, of a text the user had
in the buffer on the way to `t` (`key_is_visited_strict`).
-/
import RitiModel.Model.Phonetic
import RitiModel.Lemmas.Split
namespace Riti

/-- the word part of a typed text: what the engine looks up in the dictionary and memoises -/
def word (b : Str) : Str := (split b false).word

theorem word_nil : word [] = [] := rfl

theorem word_def (t : Str) :
    word t = (t.dropWhile isMeta).take ((t.dropWhile isMeta).length - tlen false (t.dropWhile isMeta).reverse false) := by
  unfold word
  rw [split_def]
  split
  · next h => rw [h]; rfl
  · rfl

theorem word_all_meta (t : Str) (h : ∀ c ∈ t, isMeta c = true) : word t = [] := by
  unfold word
  rw [split_all_meta false h]

/-! ### fix-points of `word` -/

theorem word_head_nonmeta (t : Str) (x : Char) (xs : List Char) (h : word t = x :: xs) : isMeta x = false := by
  obtain ⟨r, hr⟩ : x :: xs <+: t.dropWhile isMeta := h ▸ word_def t ▸ List.take_prefix _ _
  have := List.head?_dropWhile_not isMeta t
  rwa [← hr] at this

theorem word_eq_self_iff (x : Char) (xs : List Char) :
    word (x :: xs) = x :: xs ↔ isMeta x = false ∧ tlen false (x :: xs).reverse false = 0 := by
  constructor
  · intro h
    have hx := word_head_nonmeta _ _ _ h
    refine ⟨hx, ?_⟩
    unfold word at h
    rw [split_cons_nonmeta x xs false hx] at h
    simp only at h
    have hlen := congrArg List.length h
    have hle := tlen_le false (x :: xs).reverse false
    simp only [List.length_take, List.length_reverse] at hlen hle
    omega
  · rintro ⟨hx, ht⟩
    unfold word
    rw [split_cons_nonmeta x xs false hx, ht]
    simp

theorem word_idem (b : Str) : word (word b) = word b := by
  cases hw : word b with
  | nil => rfl
  | cons x xs =>
    rw [word_eq_self_iff]
    refine ⟨word_head_nonmeta b x xs hw, ?_⟩
    -- `word b` is `rest.take (len - t)`; its reverse is `rest.reverse.drop t`
    have hle := tlen_le false (b.dropWhile isMeta).reverse false
    rw [List.length_reverse] at hle
    rw [← hw, word_def, List.reverse_take, Nat.sub_sub_self hle]
    exact tlen_drop_false false _

theorem word_strip (pre k : Str) (hpre : ∀ c ∈ pre, isMeta c = true) (hk : k ≠ []) (hfix : word k = k) :
    word (pre ++ k) = k := by
  cases k with
  | nil => exact absurd rfl hk
  | cons x xs =>
    obtain ⟨hx, ht⟩ := (word_eq_self_iff x xs).mp hfix
    unfold word
    rw [split_meta_append pre x xs false hpre hx, ht]
    simp

theorem nonfix_never_key (k : Str) (h : word k ≠ k) : ∀ b, word b ≠ k := by
  intro b hb
  apply h
  rw [← hb]; exact word_idem b

/-! ### fix-point prefixes of the word part were visited -/

theorem prefix_dropLast_of_ne {α : Type} {p t : List α} (h : p <+: t) (hne : p ≠ t) : p <+: t.dropLast := by
  obtain ⟨r, rfl⟩ := h
  rw [List.dropLast_append_of_ne_nil (fun hr => hne (by rw [hr, List.append_nil]))]
  exact List.prefix_append _ _

/-- `t.dropLast` is the buffer before the last key. -/
theorem key_is_visited_strict (t k : Str) (hk : k ≠ []) (hpre : k <+: word t) (hne : k ≠ word t)
    (hfix : word k = k) : ∃ p, p <+: t.dropLast ∧ p ≠ [] ∧ word p = k := by
  refine ⟨(split t false).pre ++ k, ?_, by simp [hk], word_strip _ _ (split_pre_all_meta t false) hk hfix⟩
  -- `t` is `pre ++ k ++ (r ++ trail)` where `k ++ r` is its word part; were `pre ++ k` the whole text, `r` would be empty
  obtain ⟨r, hr⟩ := hpre
  have ht : (split t false).pre ++ k ++ (r ++ (split t false).trail) = t := by
    have := split_append t false
    rw [show (split t false).word = k ++ r from hr.symm] at this
    simpa using this
  refine prefix_dropLast_of_ne ⟨_, ht⟩ (fun he => hne ?_)
  have hr0 : r = [] := (List.append_eq_nil_iff.mp (List.append_right_eq_self.mp (ht.trans he.symm))).1
  rw [← hr, hr0, List.append_nil]

theorem key_is_visited (t k : Str) (hk : k ≠ []) (hpre : k <+: word t) (hne : k ≠ word t)
    (hfix : word k = k) : ∃ p, p <+: t ∧ p ≠ [] ∧ word p = k := by
  obtain ⟨p, hp, h1, h2⟩ := key_is_visited_strict t k hk hpre hne hfix
  exact ⟨p, hp.trans (List.dropLast_prefix t), h1, h2⟩

end Riti
