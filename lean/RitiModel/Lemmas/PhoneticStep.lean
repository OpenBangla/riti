/-
Lemmas/PhoneticStep — every call of the phonetic method and of the API characterised once: what it returns and what it
does to each field of the state, so that the proofs above need not unfold `pKey`, `pBackspace`, `pCommit`, `pUpdate`,
`Ctx.new`, `step` or `runFrom`.
* A key press and a backspace are one operation: set the composition, then refresh what is shown (`pRefresh`; `pKey_eq`,
  `pBackspace_eq`); a refresh ends in one of three ways (`pRefresh_cases`).
* A commit is `pLearn` of the binding `pLearned` (`pCommit_eq`); `update_engine` has four cases (`pUpdate_four`).
* `step` is inverted once, into the relations `PhonStep` and `FixedStep` (`step_phonetic`, `step_fixed`): a proof about
  one API call does `cases` on the relation. The fixed method's key press and backspace come as case principles here
  (`fKey_ind`, `fBackspace_ind`); what they do to the state is the subject of `Lemmas/FixedCore`.
-/
import RitiModel.Model.Context
import RitiModel.Lemmas.Store
import RitiModel.Lemmas.SplitWord
import RitiModel.Lemmas.Phonetic
namespace Riti

/-! ### `get_prev_selection` -/

/-- what `get_prev_selection` finds for a word: the stored value, else — for a word of two or more
    characters — what the derivation loop produces -/
def foundFor (env : Env) (st : Store) (w : Str) : Option Str :=
  (alookup st w).or (if w.length ≥ 2 then prevSelLoop env st (splitPoints w).reverse else none)

/-- One equation for both branches: a stored value is found and bound again, which changes nothing (`ainsert_same`). -/
theorem selectedFor_eq (env : Env) (st : Store) (w : Str) :
    selectedFor env st w = ((foundFor env st w).getD [], (foundFor env st w).elim st (ainsert st w)) := by
  unfold selectedFor foundFor
  cases h : alookup st w with
  | some v => exact congrArg (Prod.mk v) (AList.ainsert_same st w v h).symm
  | none =>
    simp only [Option.none_or]
    split
    · cases prevSelLoop env st (splitPoints w).reverse <;> rfl
    · rfl

theorem selectedFor_learned (env : Env) {st : Store} {w v : Str} (h : alookup st w = some v) :
    selectedFor env st w = (v, st) := by
  simp [selectedFor, h]

theorem selectedFor_lookup (env : Env) (st : Store) (w k : Str) :
    alookup (selectedFor env st w).2 k = if k == w then foundFor env st w else alookup st k := by
  rw [selectedFor_eq]
  cases hf : foundFor env st w with
  | some j => exact AList.alookup_ainsert st w k j
  | none =>
    split
    · next hk => rw [eq_of_beq hk]; exact (Option.or_eq_none_iff.1 hf).1
    · rfl

theorem getPrevSelection_eq (env : Env) (parts : Parts) (l : List Rank) (st : Store) :
    getPrevSelection env parts l st =
      ((l.findIdx? (fun r => r.text == wrapText parts.pre parts.trail (selectedFor env st parts.word).1)).getD 0,
        (selectedFor env st parts.word).2) := rfl

/-! ### `suggest` -/

theorem preparedParts_word (env : Env) (cfg : Cfg) (term : Str) : (preparedParts env cfg term).word = word term := by
  unfold preparedParts
  simp only
  split
  · rw [smartQuoter_word]; rfl
  · rfl

theorem suggest_list (env : Env) (cfg : Cfg) (s : PState) (t : Str) :
    (suggest env cfg s t).2.1 =
      suggestList env cfg (memoFill env s.userAutocorrect s.cache (preparedParts env cfg t).word) t := rfl

theorem suggest_index_def (env : Env) (cfg : Cfg) (s : PState) (t : Str) :
    (suggest env cfg s t).2.2 =
      (getPrevSelection env (preparedParts env cfg t) (suggest env cfg s t).2.1 s.selections).1 := rfl

theorem suggest_cache (env : Env) (cfg : Cfg) (s : PState) (t : Str) :
    (suggest env cfg s t).1.cache = memoFill env s.userAutocorrect s.cache (word t) := by
  simp [suggest, preparedParts_word]

theorem suggest_selections (env : Env) (cfg : Cfg) (s : PState) (t : Str) :
    (suggest env cfg s t).1.selections = (selectedFor env s.selections (word t)).2 := by
  simp [suggest, getPrevSelection, preparedParts_word]

theorem suggest_index (env : Env) (cfg : Cfg) (s : PState) (t : Str) :
    (suggest env cfg s t).2.2 =
      ((suggest env cfg s t).2.1.findIdx? (fun r => r.text ==
        wrapText (preparedParts env cfg t).pre (preparedParts env cfg t).trail
          (selectedFor env s.selections (word t)).1)).getD 0 := by
  rw [suggest_index_def, getPrevSelection_eq, preparedParts_word]

/-! ### `create_suggestion` -/

theorem pCreate_on (env : Env) (cfg : Cfg) (s : PState) (hon : cfg.phoneticSuggestion = true) :
    pCreateSuggestion env cfg s =
      ({ (suggest env cfg s s.buffer).1 with prevSelection := (suggest env cfg s s.buffer).2.2 },
        .full s.buffer ((suggest env cfg s s.buffer).2.1.map Rank.text) (suggest env cfg s s.buffer).2.2 cfg.ansi) := by
  simp [pCreateSuggestion, hon]

theorem pCreate_off (env : Env) (cfg : Cfg) (s : PState) (hoff : cfg.phoneticSuggestion = false) :
    pCreateSuggestion env cfg s = (s, .single (suggestOnlyPhonetic env s.buffer) cfg.ansi) := by
  simp [pCreateSuggestion, hoff]

theorem pCreate_buffer (env : Env) (cfg : Cfg) (s : PState) :
    (pCreateSuggestion env cfg s).1.buffer = s.buffer := by
  simp only [pCreateSuggestion]; split <;> simp [suggest]

theorem pCreate_ua (env : Env) (cfg : Cfg) (s : PState) :
    (pCreateSuggestion env cfg s).1.userAutocorrect = s.userAutocorrect := by
  simp only [pCreateSuggestion]; split <;> simp [suggest]

theorem pCreate_cache_on (env : Env) (cfg : Cfg) (s : PState) (hon : cfg.phoneticSuggestion = true) :
    (pCreateSuggestion env cfg s).1.cache = memoFill env s.userAutocorrect s.cache (word s.buffer) := by
  rw [pCreate_on env cfg s hon]; exact suggest_cache env cfg s s.buffer

theorem pCreate_selections (env : Env) (cfg : Cfg) (s : PState) :
    (pCreateSuggestion env cfg s).1.selections =
      if cfg.phoneticSuggestion then (selectedFor env s.selections (word s.buffer)).2 else s.selections := by
  cases hon : cfg.phoneticSuggestion with
  | true => rw [pCreate_on env cfg s hon]; exact suggest_selections env cfg s s.buffer
  | false => rw [pCreate_off env cfg s hon]; rfl

/-! ### key press and backspace: set the composition, then refresh what is shown -/

/-- what a key press and a backspace end with: nothing to show for an empty composition, else
    `create_suggestion` -/
def pRefresh (env : Env) (cfg : Cfg) (s : PState) : PState × Sugg :=
  if s.buffer.isEmpty then (s, Sugg.empty) else pCreateSuggestion env cfg s

/-- the composition after a key press -/
def keyBuffer (b : Str) (key : Nat) : Str :=
  match keycodeToChar key with
  | none => b
  | some ch => b ++ [ch]

/-- the preselected index returned for a key press: the punctuation keys that keep the caller's
    selection return it in place of the computed one -/
def keyIndex (key sel i : Nat) : Nat :=
  match keycodeToChar key with
  | some ch => if isPunctOverride ch then sel else i
  | none => i

def Sugg.mapIndex (f : Nat → Nat) : Sugg → Sugg
  | .full aux l i ansi => .full aux l (f i) ansi
  | x => x

theorem pRefresh_cases (env : Env) (cfg : Cfg) (s : PState) :
    (s.buffer = [] ∧ pRefresh env cfg s = (s, Sugg.empty)) ∨
    (s.buffer ≠ [] ∧ cfg.phoneticSuggestion = false ∧
      pRefresh env cfg s = (s, .single (suggestOnlyPhonetic env s.buffer) cfg.ansi)) ∨
    (s.buffer ≠ [] ∧ cfg.phoneticSuggestion = true ∧ pRefresh env cfg s = pCreateSuggestion env cfg s) := by
  unfold pRefresh
  by_cases hb : s.buffer = []
  · exact .inl ⟨hb, by rw [if_pos (List.isEmpty_iff.mpr hb)]⟩
  · rw [if_neg (fun h => hb (List.isEmpty_iff.mp h))]
    cases hon : cfg.phoneticSuggestion with
    | false => exact .inr (.inl ⟨hb, rfl, pCreate_off env cfg s hon⟩)
    | true => exact .inr (.inr ⟨hb, rfl, rfl⟩)

theorem pRefresh_buffer (env : Env) (cfg : Cfg) (s : PState) : (pRefresh env cfg s).1.buffer = s.buffer := by
  rcases pRefresh_cases env cfg s with ⟨_, e⟩ | ⟨_, _, e⟩ | ⟨_, _, e⟩ <;> rw [e]
  exact pCreate_buffer env cfg s

theorem pRefresh_ua (env : Env) (cfg : Cfg) (s : PState) :
    (pRefresh env cfg s).1.userAutocorrect = s.userAutocorrect := by
  rcases pRefresh_cases env cfg s with ⟨_, e⟩ | ⟨_, _, e⟩ | ⟨_, _, e⟩ <;> rw [e]
  exact pCreate_ua env cfg s

theorem pRefresh_selections (env : Env) (cfg : Cfg) (s : PState) :
    (pRefresh env cfg s).1.selections =
      if s.buffer.isEmpty || !cfg.phoneticSuggestion then s.selections
      else (selectedFor env s.selections (word s.buffer)).2 := by
  unfold pRefresh
  split
  · next h => simp [h]
  · next h => rw [pCreate_selections]; cases cfg.phoneticSuggestion <;> simp [h]

theorem pBackspace_eq (env : Env) (cfg : Cfg) (s : PState) (ctrl : Bool) :
    pBackspace env cfg s ctrl = pRefresh env cfg { s with buffer := if ctrl then [] else s.buffer.dropLast } := by
  unfold pBackspace pRefresh
  by_cases hb : s.buffer = []
  · obtain ⟨b, _, _, _, _, _, _⟩ := s
    subst hb
    cases ctrl <;> rfl
  · cases ctrl <;> simp [hb]

theorem pKey_eq (env : Env) (cfg : Cfg) (s : PState) (key sel : Nat) :
    pKey env cfg s key sel =
      ((pRefresh env cfg { s with buffer := keyBuffer s.buffer key }).1,
       (pRefresh env cfg { s with buffer := keyBuffer s.buffer key }).2.mapIndex (keyIndex key sel)) := by
  unfold pKey pRefresh keyBuffer keyIndex
  cases keycodeToChar key with
  | none =>
    have hid : ∀ sg : Sugg, sg.mapIndex (fun i => i) = sg := fun sg => by cases sg <;> rfl
    simp only [hid]
  | some ch =>
    have hne : (s.buffer ++ [ch]).isEmpty = false := by simp
    simp only [hne, Bool.false_eq_true, if_false]
    cases (pCreateSuggestion env cfg { s with buffer := s.buffer ++ [ch] }).2 <;> rfl

theorem pKey_of_char (env : Env) (cfg : Cfg) (s : PState) {key : Nat} (sel : Nat) {ch : Char}
    (hk : keycodeToChar key = some ch) :
    pKey env cfg s key sel =
      ((pCreateSuggestion env cfg { s with buffer := s.buffer ++ [ch] }).1,
       (pCreateSuggestion env cfg { s with buffer := s.buffer ++ [ch] }).2.mapIndex
         fun i => if isPunctOverride ch then sel else i) := by
  have hi : keyIndex key sel = fun i => if isPunctOverride ch then sel else i := by unfold keyIndex; rw [hk]
  simp [pKey_eq, keyBuffer, hk, pRefresh, hi]

theorem pKey_buffer (env : Env) (cfg : Cfg) (s : PState) (key sel : Nat) :
    (pKey env cfg s key sel).1.buffer = keyBuffer s.buffer key := by
  rw [pKey_eq, pRefresh_buffer]

theorem pBackspace_buffer (env : Env) (cfg : Cfg) (s : PState) (ctrl : Bool) :
    (pBackspace env cfg s ctrl).1.buffer = if ctrl then [] else s.buffer.dropLast := by
  rw [pBackspace_eq, pRefresh_buffer]

theorem keyBuffer_all {P : Char → Prop} (hkey : ∀ {k c}, keycodeToChar k = some c → P c) {b : Str}
    (hb : ∀ c ∈ b, P c) (key : Nat) : ∀ c ∈ keyBuffer b key, P c := by
  unfold keyBuffer
  cases hk : keycodeToChar key with
  | none => exact hb
  | some ch =>
    intro c hc
    rcases List.mem_append.mp hc with h | h
    · exact hb c h
    · exact List.mem_singleton.mp h ▸ hkey hk

/-- After a key press, as after a backspace (next lemma), every proper prefix of the new composition is a prefix of the
    old one, for which the memo and the store are complete already: the hypothesis of `PInv.refresh`
    (`Lemmas/PhoneticInv`). -/
theorem keyBuffer_dropLast_prefix (b : Str) (key : Nat) : (keyBuffer b key).dropLast <+: b := by
  unfold keyBuffer
  split
  · exact List.dropLast_prefix b
  · simp

theorem backspace_dropLast_prefix (b : Str) (ctrl : Bool) : (if ctrl then [] else b.dropLast).dropLast <+: b := by
  cases ctrl
  · exact (List.dropLast_prefix _).trans (List.dropLast_prefix _)
  · exact List.nil_prefix

/-! ### commit -/

theorem pCommit_ok {cfg : Cfg} {s s' : PState} {i : Nat} {wr : Option Store} (h : pCommit cfg s i = .ok (s', wr)) :
    s' = { s with selections := wr.getD s.selections, buffer := [] } ∧
    ∀ st, wr = some st → ∃ r, s.suggestions[i]? = some r ∧ s.prevSelection ≠ i ∧ cfg.phoneticSuggestion = true ∧
      st = ainsert s.selections (split s.buffer false).word (split r.text true).word := by
  unfold pCommit at h
  split at h
  · next hc =>
    simp only [Bool.and_eq_true, bne_iff_ne, ne_eq] at hc
    split at h
    · cases h
    · next r hr => cases h; exact ⟨rfl, fun st hst => ⟨r, hr, hc.1, hc.2, (Option.some.inj hst).symm⟩⟩
  · cases h; exact ⟨rfl, fun st hst => by cases hst⟩

/-- what a commit learns: `.ok none` = nothing (the preselected candidate, or suggestions off),
    `.ok (some (typed word, chosen word))`, or the panic of an index outside the list -/
def pLearned (cfg : Cfg) (s : PState) (i : Nat) : Res (Option (Str × Str)) :=
  if s.prevSelection != i && cfg.phoneticSuggestion then
    match s.suggestions[i]? with
    | none => .error .indexOutOfRange
    | some r => .ok (some ((split s.buffer false).word, (split r.text true).word))
  else .ok none

/-- a commit that learned `kv`: the composition is cleared, the binding (if any) is inserted into the
    in-memory store and the whole store is handed to `fs::write` -/
def pLearn (s : PState) : Option (Str × Str) → PState × Option Store
  | none => ({ s with buffer := [] }, none)
  | some kv => ({ s with selections := ainsert s.selections kv.1 kv.2, buffer := [] }, some (ainsert s.selections kv.1 kv.2))

theorem pCommit_eq (cfg : Cfg) (s : PState) (i : Nat) : pCommit cfg s i = (pLearned cfg s i).map (pLearn s) := by
  unfold pCommit pLearned
  split
  · cases s.suggestions[i]? <;> rfl
  · rfl

theorem pLearned_off (cfg : Cfg) (s : PState) (i : Nat) (hoff : cfg.phoneticSuggestion = false) :
    pLearned cfg s i = .ok none := by
  simp [pLearned, hoff]

theorem pCommit_off (cfg : Cfg) (s : PState) (i : Nat) (hoff : cfg.phoneticSuggestion = false) :
    pCommit cfg s i = .ok ({ s with buffer := [] }, none) := by
  rw [pCommit_eq, pLearned_off cfg s i hoff]; rfl

/-! ### `update_engine` -/

theorem pUpdate_of_newer {fs : FS} {s : PState} {t : Nat} {parsed : Option Store} (h : fs.ac = some (t, parsed))
    (ht : t > s.modified) : pUpdate fs s = { s with userAutocorrect := parsed.getD [], cache := [], modified := t } := by
  simp [pUpdate, h, ht]

theorem pUpdate_of_not_newer {fs : FS} {s : PState} {t : Nat} {parsed : Option Store} (h : fs.ac = some (t, parsed))
    (ht : t ≤ s.modified) : pUpdate fs s = s := by
  simp [pUpdate, h, Nat.not_lt.mpr ht]

theorem pUpdate_of_gone {fs : FS} {s : PState} (h : fs.ac = none) (hm : s.modified ≠ 0) :
    pUpdate fs s = { s with userAutocorrect := [], cache := [], modified := 0 } := by
  simp [pUpdate, h, hm]

theorem pUpdate_of_never {fs : FS} {s : PState} (h : fs.ac = none) (hm : s.modified = 0) : pUpdate fs s = s := by
  simp [pUpdate, h, hm]

theorem pUpdate_four (fs : FS) (s : PState) :
    (∃ t parsed, fs.ac = some (t, parsed) ∧ t > s.modified ∧
      pUpdate fs s = { s with userAutocorrect := parsed.getD [], cache := [], modified := t }) ∨
    (∃ t parsed, fs.ac = some (t, parsed) ∧ t ≤ s.modified ∧ pUpdate fs s = s) ∨
    (fs.ac = none ∧ s.modified ≠ 0 ∧ pUpdate fs s = { s with userAutocorrect := [], cache := [], modified := 0 }) ∨
    (fs.ac = none ∧ s.modified = 0 ∧ pUpdate fs s = s) := by
  cases h : fs.ac with
  | some p =>
    by_cases ht : p.1 > s.modified
    · exact .inl ⟨p.1, p.2, rfl, ht, pUpdate_of_newer h ht⟩
    · exact .inr (.inl ⟨p.1, p.2, rfl, Nat.le_of_not_gt ht, pUpdate_of_not_newer h (Nat.le_of_not_gt ht)⟩)
  | none =>
    by_cases hm : s.modified = 0
    · exact .inr (.inr (.inr ⟨rfl, hm, pUpdate_of_never h hm⟩))
    · exact .inr (.inr (.inl ⟨rfl, hm, pUpdate_of_gone h hm⟩))

theorem pUpdate_cases (fs : FS) (s : PState) :
    pUpdate fs s = s ∨ ∃ ua t, pUpdate fs s = { s with userAutocorrect := ua, cache := [], modified := t } := by
  rcases pUpdate_four fs s with ⟨_, _, _, _, e⟩ | ⟨_, _, _, _, e⟩ | ⟨_, _, e⟩ | ⟨_, _, e⟩
  · exact .inr ⟨_, _, e⟩
  · exact .inl e
  · exact .inr ⟨_, _, e⟩
  · exact .inl e

theorem pUpdate_buffer (fs : FS) (s : PState) : (pUpdate fs s).buffer = s.buffer := by
  rcases pUpdate_cases fs s with h | ⟨_, _, h⟩ <;> rw [h]

theorem pUpdate_selections (fs : FS) (s : PState) : (pUpdate fs s).selections = s.selections := by
  rcases pUpdate_cases fs s with h | ⟨_, _, h⟩ <;> rw [h]

theorem pUpdate_suggestions (fs : FS) (s : PState) : (pUpdate fs s).suggestions = s.suggestions := by
  rcases pUpdate_cases fs s with h | ⟨_, _, h⟩ <;> rw [h]

theorem pUpdate_prevSelection (fs : FS) (s : PState) : (pUpdate fs s).prevSelection = s.prevSelection := by
  rcases pUpdate_cases fs s with h | ⟨_, _, h⟩ <;> rw [h]

/-! ### creating a method and a context -/

theorem pNew_selections (fs : FS) : (pNew fs).selections = fs.sel.content := rfl

theorem pNew_userAutocorrect (fs : FS) :
    (pNew fs).userAutocorrect = match fs.ac with | some (_, parsed) => parsed.getD [] | none => [] := by
  unfold pNew; rcases fs.ac with _ | ⟨t, _ | st⟩ <;> rfl

theorem pNew_modified (fs : FS) : (pNew fs).modified = match fs.ac with | some (t, some _) => t | _ => 0 := by
  unfold pNew; rcases fs.ac with _ | ⟨t, _ | st⟩ <;> rfl

theorem mNew_isSome (w : World) (fs : FS) (p : String) :
    (mNew w fs p).isSome = (isPhoneticPath p || (w.layouts p).isSome) := by
  unfold mNew; cases isPhoneticPath p <;> cases w.layouts p <;> rfl

theorem mNew_cases {w : World} {fs : FS} {p : String} {m : MState} (h : mNew w fs p = some m) :
    (isPhoneticPath p = true ∧ m = .phonetic (pNew fs)) ∨
    (isPhoneticPath p = false ∧ ∃ l, w.layouts p = some l ∧ m = .fixed l {}) := by
  unfold mNew at h
  cases hp : isPhoneticPath p <;> rw [hp] at h
  · cases hl : w.layouts p <;> rw [hl] at h <;> cases h
    exact .inr ⟨rfl, _, rfl, rfl⟩
  · cases h; exact .inl ⟨rfl, rfl⟩

theorem ctxNew_eq_some {w : World} {fs : FS} {cfg : Cfg} {p : String} {c : Ctx} :
    Ctx.new w fs cfg p = some c ↔ ∃ m, mNew w fs p = some m ∧ c = ⟨cfg, p, m⟩ := by
  unfold Ctx.new; cases mNew w fs p <;> simp [eq_comm]

theorem ctxNew_phonetic (w : World) (fs : FS) (cfg : Cfg) {p : String} (hp : isPhoneticPath p = true) :
    Ctx.new w fs cfg p = some ⟨cfg, p, .phonetic (pNew fs)⟩ := by
  simp [Ctx.new, mNew, hp]

theorem ctxNew_not_phonetic (w : World) (fs : FS) (cfg : Cfg) {p : String} (hp : isPhoneticPath p = false) :
    Ctx.new w fs cfg p = (w.layouts p).map fun l => ⟨cfg, p, .fixed l {}⟩ := by
  unfold Ctx.new mNew; rw [hp]; cases w.layouts p <;> rfl

theorem ctxNew_fixed (w : World) (fs : FS) (cfg : Cfg) {p : String} {l : Layout} (hp : isPhoneticPath p = false)
    (hl : w.layouts p = some l) : Ctx.new w fs cfg p = some ⟨cfg, p, .fixed l {}⟩ := by
  rw [ctxNew_not_phonetic w fs cfg hp, hl]; rfl

theorem ctxNew_isSome (w : World) (fs : FS) (cfg : Cfg) (p : String) :
    (Ctx.new w fs cfg p).isSome = (isPhoneticPath p || (w.layouts p).isSome) := by
  rw [← mNew_isSome w fs]; exact Option.isSome_map

/-! ### the fixed method's key press and backspace, as case principles -/

theorem fKey_ind {Q : FState × Sugg → Prop} {w : World} {layout : Layout} {cfg : Cfg} {s : FState} {key modifier : Nat}
    (hnone : Q (s, fCurrentSuggestion cfg s))
    (hsome : ∀ s', fKeyState layout cfg s key modifier = some s' → Q (s', Sugg.empty) ∧ Q (fCreateSuggestion w cfg s')) :
    Q (fKey w layout cfg s key modifier) := by
  unfold fKey
  split
  · exact hnone
  · next s' hk =>
    split
    · exact (hsome s' hk).1
    · exact (hsome s' hk).2

theorem fBackspace_ind {Q : FState × Sugg → Prop} {w : World} {cfg : Cfg} {s : FState} {ctrl : Bool}
    (hshow : Q (fCreateSuggestion w cfg (fBackspaceState s ctrl).1)) (hempty : Q ((fBackspaceState s ctrl).1, Sugg.empty)) :
    Q (fBackspace w cfg s ctrl) := by
  unfold fBackspace
  simp only
  split <;> assumption

/-! ### one API call: `step` inverted into a relation per method -/

theorem step_update {w : World} {c c' : Ctx} {fs fs' : FS} {cfg : Cfg} {p : String} {o : Out}
    (hs : step w c fs (.update cfg p) = .ok (c', fs', o)) :
    fs' = fs ∧ o = .unit ∧
    ((c.layoutPath ≠ p ∧ ∃ m, mNew w fs p = some m ∧ c' = ⟨cfg, p, m⟩) ∨
     (c.layoutPath = p ∧ c' = ⟨cfg, p, match c.m with
        | .phonetic s => .phonetic (pUpdate fs s)
        | .fixed l s => .fixed l s⟩)) := by
  simp only [step] at hs
  split at hs
  · next hp =>
    cases hn : mNew w fs p with
    | none => rw [hn] at hs; cases hs
    | some m => rw [hn] at hs; cases hs; exact ⟨rfl, rfl, .inl ⟨by simpa using hp, m, rfl, rfl⟩⟩
  · next hp =>
    obtain rfl : c.layoutPath = p := by simpa using hp
    cases hm : c.m <;> rw [hm] at hs <;> cases hs <;> exact ⟨rfl, rfl, .inr ⟨rfl, rfl⟩⟩

/-- the user files after a commit: the written store replaces the selections file if the write succeeds -/
def fsWrote (fs : FS) : Option Store → FS
  | some st => if fs.writable then { fs with sel := .parsed st } else fs
  | none => fs

/-- `step` on a phonetic context with method state `s`, as a relation: event, context after, files
    after, output -/
inductive PhonStep (w : World) (c : Ctx) (fs : FS) (s : PState) : Event → Ctx → FS → Out → Prop
  | key (code modifier sel : Nat) :
      PhonStep w c fs s (.key code modifier sel) { c with m := .phonetic (pKey w.env c.cfg s code sel).1 } fs
        (.sugg (pKey w.env c.cfg s code sel).2)
  | backspace (ctrl : Bool) :
      PhonStep w c fs s (.backspace ctrl) { c with m := .phonetic (pBackspace w.env c.cfg s ctrl).1 } fs
        (.sugg (pBackspace w.env c.cfg s ctrl).2)
  | commit (i : Nat) (s' : PState) (wr : Option Store) (hc : pCommit c.cfg s i = .ok (s', wr)) :
      PhonStep w c fs s (.commit i) { c with m := .phonetic s' } (fsWrote fs wr) .unit
  | finish : PhonStep w c fs s .finish { c with m := .phonetic (pFinish s) } fs .unit
  | update (cfg : Cfg) : PhonStep w c fs s (.update cfg c.layoutPath) ⟨cfg, c.layoutPath, .phonetic (pUpdate fs s)⟩ fs .unit
  | switch (cfg : Cfg) (p : String) (m : MState) (hp : c.layoutPath ≠ p) (hn : mNew w fs p = some m) :
      PhonStep w c fs s (.update cfg p) ⟨cfg, p, m⟩ fs .unit
  | setFs (fs' : FS) : PhonStep w c fs s (.setFs fs') c fs' .unit

theorem step_phonetic {w : World} {c c' : Ctx} {fs fs' : FS} {s : PState} {e : Event} {o : Out}
    (hm : c.m = .phonetic s) (hs : step w c fs e = .ok (c', fs', o)) : PhonStep w c fs s e c' fs' o := by
  cases e with
  | setFs f => cases hs; exact .setFs _
  | commit i =>
    simp only [step, hm] at hs
    cases hc : pCommit c.cfg s i with
    | error p => rw [hc] at hs; cases hs
    | ok r =>
      obtain ⟨s', wr⟩ := r
      rw [hc] at hs
      have := PhonStep.commit (w := w) (fs := fs) i s' wr hc
      cases wr <;> (cases hs; exact this)
  | update cfg p =>
    obtain ⟨rfl, rfl, ⟨hp, m, hn, rfl⟩ | ⟨rfl, rfl⟩⟩ := step_update hs
    · exact .switch cfg p m hp hn
    · rw [hm]; exact .update cfg
  -- key, backspace, finish: `step` returns what the constructor of that name says
  | _ => simp only [step, hm] at hs; cases hs; constructor

/-- `step` on a fixed-layout context with layout `l` and method state `s`, as a relation -/
inductive FixedStep (w : World) (c : Ctx) (fs : FS) (l : Layout) (s : FState) : Event → Ctx → FS → Out → Prop
  | key (code modifier sel : Nat) :
      FixedStep w c fs l s (.key code modifier sel) { c with m := .fixed l (fKey w l c.cfg s code modifier).1 } fs
        (.sugg (fKey w l c.cfg s code modifier).2)
  | backspace (ctrl : Bool) :
      FixedStep w c fs l s (.backspace ctrl) { c with m := .fixed l (fBackspace w c.cfg s ctrl).1 } fs
        (.sugg (fBackspace w c.cfg s ctrl).2)
  | commit (i : Nat) : FixedStep w c fs l s (.commit i) { c with m := .fixed l (fClear s) } fs .unit
  | finish : FixedStep w c fs l s .finish { c with m := .fixed l (fClear s) } fs .unit
  | update (cfg : Cfg) : FixedStep w c fs l s (.update cfg c.layoutPath) ⟨cfg, c.layoutPath, .fixed l s⟩ fs .unit
  | switch (cfg : Cfg) (p : String) (m : MState) (hp : c.layoutPath ≠ p) (hn : mNew w fs p = some m) :
      FixedStep w c fs l s (.update cfg p) ⟨cfg, p, m⟩ fs .unit
  | setFs (fs' : FS) : FixedStep w c fs l s (.setFs fs') c fs' .unit

theorem step_fixed {w : World} {c c' : Ctx} {fs fs' : FS} {l : Layout} {s : FState} {e : Event} {o : Out}
    (hm : c.m = .fixed l s) (hs : step w c fs e = .ok (c', fs', o)) : FixedStep w c fs l s e c' fs' o := by
  cases e with
  | setFs f => cases hs; exact .setFs _
  | update cfg p =>
    obtain ⟨rfl, rfl, ⟨hp, m, hn, rfl⟩ | ⟨rfl, rfl⟩⟩ := step_update hs
    · exact .switch cfg p m hp hn
    · rw [hm]; exact .update cfg
  | _ => simp only [step, hm] at hs; cases hs; constructor

/-! ### histories -/

theorem runFrom_cons_ok {w : World} {c c'' : Ctx} {fs fs'' : FS} {e : Event} {es : List Event} {os : List Out}
    (h : runFrom w c fs (e :: es) = .ok (c'', fs'', os)) :
    ∃ c' fs' o os', step w c fs e = .ok (c', fs', o) ∧ runFrom w c' fs' es = .ok (c'', fs'', os') ∧ os = o :: os' := by
  rw [runFrom] at h
  split at h
  · cases h
  · next c' fs' o hs =>
    split at h
    · cases h
    · next os' hr => cases h; exact ⟨c', fs', o, os', hs, hr, rfl⟩

theorem runFrom_cons_error {w : World} {c : Ctx} {fs : FS} {e : Event} {es : List Event} {p : Panic}
    (h : runFrom w c fs (e :: es) = .error p) :
    step w c fs e = .error p ∨ ∃ c' fs' o, step w c fs e = .ok (c', fs', o) ∧ runFrom w c' fs' es = .error p := by
  rw [runFrom] at h
  split at h
  · next hs => cases h; exact .inl hs
  · next c' fs' o hs =>
    split at h
    · next hr => cases h; exact .inr ⟨c', fs', o, hs, hr⟩
    · cases h

theorem runFrom_invariant {w : World} {P : Ctx → FS → Prop} {evs : List Event}
    (hstep : ∀ e ∈ evs, ∀ c fs c' fs' o, P c fs → step w c fs e = .ok (c', fs', o) → P c' fs')
    {c c' : Ctx} {fs fs' : FS} {os : List Out} (h0 : P c fs) (hr : runFrom w c fs evs = .ok (c', fs', os)) :
    P c' fs' := by
  induction evs generalizing c fs os with
  | nil => cases hr; exact h0
  | cons e es ih =>
    obtain ⟨c₁, fs₁, o, os', hs, hrest, _⟩ := runFrom_cons_ok hr
    exact ih (fun e' he' => hstep e' (List.mem_cons_of_mem _ he')) (hstep e (List.mem_cons_self ..) _ _ _ _ _ h0 hs) hrest

end Riti
