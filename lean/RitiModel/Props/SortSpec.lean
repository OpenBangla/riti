/-
Props/SortSpec — the modelling step "Rust's `slice::sort` = the model's insertion sort" is sound.

`slice::sort` is only *specified*: the result is a rearrangement of the input, ascending for the
comparator, and stable (items that compare `Equal` keep their input order) — provided the
comparator is a total order on the items; otherwise the order is unspecified or the call panics.
The model (`sortStable`, Model/Rank.lean) is one particular algorithm.  Here:

 * `IsStableSortOf l l'` is the specification;
 * `sortStable_isStableSortOf`: the model meets it when `Rank.cmp` is transitive on the list
   (`CmpTransOn l`, implied by the C07 hypothesis `RanksSeparated l`);
 * `stable_sort_unique`, `any_stable_sort_eq_model_unconditional`: the specification has at most one solution and
   it is the model's list — for EVERY list (only reflexivity/antisymmetry of `Rank.cmp` are used);
   so merge sort, driftsort, … all return exactly `sortStable l`;
 * `any_sort_eq_model_up_to_ties`: an unstable sort (`sort_unstable`, fixed method) agrees with the
   model position by position up to ties;
 * `no_stable_sort_without_transitivity`: on a list where `Rank.cmp` is not transitive the
   specification can have NO solution — the hypothesis of the existence theorem is needed.
-/
import RitiModel.Model.Rank
import RitiModel.Lemmas.Rank
import RitiModel.Lemmas.Sort
import RitiModel.Lemmas.SortSpec
import RitiModel.Props.C07
namespace Riti.SortSpec
open Riti Riti.C07

/-! ## 1. the specification of a stable sort -/

/-- ascending for `impl Ord for Rank`: no item is `Greater` than a later one -/
def Sorted (l : List Rank) : Prop := l.Pairwise (fun a b => a.cmp b ≠ .gt)

/-- stable: for every item `x` of the input, the items that compare `Equal` to `x` stand in the
    output in their input order.  (`x` ranges over the ITEMS OF THE LIST: that is what "equal
    elements keep their order" means for `slice::sort`; see `StableWrtAll` for why not all `x`.) -/
def StableWrt (l l' : List Rank) : Prop :=
  ∀ x ∈ l, l'.filter (fun y => y.cmp x == .eq) = l.filter (fun y => y.cmp x == .eq)

/-- the same with `x` ranging over ALL ranks, also ones that are not in the list.  Too strong: a
    foreign `x` can be `Equal` to two items that are not `Equal` to each other
    (`stableWrtAll_too_strong`). -/
def StableWrtAll (l l' : List Rank) : Prop :=
  ∀ x, l'.filter (fun y => y.cmp x == .eq) = l.filter (fun y => y.cmp x == .eq)

/-- `l'` is a stable sort of `l`: a rearrangement, ascending, ties in input order — the documented
    contract of Rust's `slice::sort` -/
structure IsStableSortOf (l l' : List Rank) : Prop where
  perm : l'.Perm l
  sorted : Sorted l'
  stable : StableWrt l l'

instance (l : List Rank) : Decidable (Sorted l) := by unfold Sorted; infer_instance
instance (l l' : List Rank) : Decidable (StableWrt l l') := by unfold StableWrt; infer_instance
instance (l l' : List Rank) : Decidable (IsStableSortOf l l') :=
  decidable_of_iff (l'.Perm l ∧ Sorted l' ∧ StableWrt l l')
    ⟨fun h => ⟨h.1, h.2.1, h.2.2⟩, fun h => ⟨h.perm, h.sorted, h.stable⟩⟩

/-- the all-`x` form implies the members-only form -/
theorem StableWrtAll.stableWrt {l l' : List Rank} (h : StableWrtAll l l') : StableWrt l l' :=
  fun x _ => h x

/-- if every item is tied with `x`, keeping the tie class of `x` in input order means returning the input -/
theorem eq_of_stable_of_all_tied {l l' : List Rank} {x : Rank} (hp : l'.Perm l) (hall : ∀ y ∈ l, y.cmp x = .eq)
    (h : l'.filter (fun y => y.cmp x == .eq) = l.filter (fun y => y.cmp x == .eq)) : l' = l := by
  rwa [List.filter_eq_self.mpr fun y hy => by simp [hall y (hp.subset hy)],
    List.filter_eq_self.mpr fun y hy => by simp [hall y hy]] at h

/-- the all-`x` form of stability is NOT what a sort guarantees: `[Emoji 4, Other 3]` is separated
    (a total order on its two items), every sort must return `[Other 3, Emoji 4]`, but the foreign
    `x = Emoji 3` is `Equal` to both items and would forbid swapping them.  So no list at all is a
    rearrangement, ascending and `StableWrtAll` — the reason `StableWrt` quantifies over members. -/
theorem stableWrtAll_too_strong :
    let l := [Rank.emoji ['a'] 4, Rank.other ['b'] 3]
    RanksSeparated l ∧ ¬ StableWrtAll l (sortStable l) ∧
      ∀ l', l'.Perm l → Sorted l' → ¬ StableWrtAll l l' := by
  refine ⟨sortStable_stable_needs_separation.1, ?_, ?_⟩
  · intro h
    exact absurd (h (.emoji [] 3)) (by decide +kernel)
  · intro l' hp hs h
    cases eq_of_stable_of_all_tied hp (by decide +kernel) (h (.emoji [] 3))
    revert hs
    decide +kernel

/-! ## 2. existence: the model's sort meets the specification -/

/-- the model's sort meets the contract of `slice::sort` whenever the comparator is transitive on
    the items of the list — the exact hypothesis needed (`CmpTransOn l`: the other `Ord` laws hold
    for all ranks) -/
theorem sortStable_isStableSortOf_of_trans (l : List Rank) (h : CmpTransOn l) :
    IsStableSortOf l (sortStable l) :=
  ⟨sortStable_perm l, sortStable_sorted_of_trans h, fun _ => sortStable_stable_mem_of_trans h⟩

/-- the model's sort meets the contract of `slice::sort` on every separated list (the hypothesis
    of the C07 theorems; it implies `CmpTransOn l`) -/
theorem sortStable_isStableSortOf (l : List Rank) (h : RanksSeparated l) :
    IsStableSortOf l (sortStable l) :=
  sortStable_isStableSortOf_of_trans l (cmpTransOn_of_separated h)

/-- for a reference item `x` outside the list the tie class keeps its order too, as long as `x`
    does not break the separation (`C07.sortStable_stable`) -/
theorem sortStable_stable_foreign (l : List Rank) (x : Rank) (h : RanksSeparated (x :: l)) :
    (sortStable l).filter (fun y => y.cmp x == .eq) = l.filter (fun y => y.cmp x == .eq) :=
  sortStable_stable x h

/-! ## 3. uniqueness: every stable sort returns the model's list -/

/-- ANY implementation of a stable sort (Rust's merge sort / driftsort, …) returns exactly the
    list of the model's insertion sort.  Holds for EVERY list: if the comparator misbehaves on `l`
    the premise may be unsatisfiable (`no_stable_sort_without_transitivity`), but it can never be
    satisfied by a list other than `sortStable l`. -/
theorem any_stable_sort_eq_model_unconditional (l l' : List Rank) (h : IsStableSortOf l l') :
    l' = sortStable l :=
  eq_sortStable_of_sorted_stable l l' h.perm h.sorted h.stable

/-- a list has at most one stable sort — whatever algorithm computes it: the model's list.  No hypothesis on `l`:
    only reflexivity and antisymmetry of `impl Ord for Rank` are used, which hold for all ranks. -/
theorem stable_sort_unique (l l₁ l₂ : List Rank) (h₁ : IsStableSortOf l l₁) (h₂ : IsStableSortOf l l₂) :
    l₁ = l₂ :=
  (any_stable_sort_eq_model_unconditional l l₁ h₁).trans (any_stable_sort_eq_model_unconditional l l₂ h₂).symm

/-- the form asked for: on a separated list (where `slice::sort` is guaranteed to meet its
    contract) the library's sorted list IS the model's list.  The hypothesis is not used by the
    proof (`any_stable_sort_eq_model_unconditional`); it is what makes the premise attainable
    (`sortStable_isStableSortOf`). -/
theorem any_stable_sort_eq_model (l l' : List Rank) (_h : RanksSeparated l) (hs : IsStableSortOf l l') :
    l' = sortStable l :=
  any_stable_sort_eq_model_unconditional l l' hs

/-- existence and uniqueness together: on a separated list "the stable sort of `l`" is well
    defined and is `sortStable l` -/
theorem isStableSortOf_iff (l l' : List Rank) (h : RanksSeparated l) :
    IsStableSortOf l l' ↔ l' = sortStable l :=
  ⟨any_stable_sort_eq_model_unconditional l l', fun he => he ▸ sortStable_isStableSortOf l h⟩

/-- if a list has a stable sort at all, the model's sort is sorted and stable on it -/
theorem sortStable_isStableSortOf_of_exists (l l' : List Rank) (h : IsStableSortOf l l') :
    IsStableSortOf l (sortStable l) :=
  any_stable_sort_eq_model_unconditional l l' h ▸ h

/-! ## 4. `sort_unstable`: equal to the model up to ties -/

/-- the key that names the tie class of an item of `l`: the number of items of `l` strictly below
    it, i.e. the index at which its class starts in every ascending rearrangement (`Riti.tieRank`).
    On a list with transitive comparator two members have the same key exactly when they compare
    `Equal` (`rankKey_eq_iff`). -/
def rankKey (l : List Rank) (r : Rank) : Nat := tieRank l r

theorem rankKey_eq_iff {l : List Rank} (h : RanksSeparated l) {a b : Rank} (ha : a ∈ l) (hb : b ∈ l) :
    rankKey l a = rankKey l b ↔ a.cmp b = .eq :=
  tieRank_eq_iff (cmpTransOn_of_separated h) ha hb

/-- an UNSTABLE sort (`sort_unstable`: any ascending rearrangement) agrees with the model up to
    the order inside tie classes: (a) every tie class holds the same items as in the model's list,
    and (b) position by position the two lists carry items of the same tie class
    (`rankKey`).  (a) needs nothing; (b) needs the transitive comparator. -/
theorem any_sort_eq_model_up_to_ties_of_trans (l l' : List Rank) (h : CmpTransOn l)
    (hp : l'.Perm l) (hs : Sorted l') :
    (∀ x, (l'.filter (fun y => y.cmp x == .eq)).Perm ((sortStable l).filter (fun y => y.cmp x == .eq))) ∧
      l'.map (rankKey l) = (sortStable l).map (rankKey l) :=
  ⟨fun _ => (hp.trans (sortStable_perm l).symm).filter _,
    map_tieRank_eq_of_sorted_perm h hp hs (sortStable_perm l) (sortStable_sorted_of_trans h)⟩

/-- `any_sort_eq_model_up_to_ties_of_trans` under the C07 hypothesis -/
theorem any_sort_eq_model_up_to_ties (l l' : List Rank) (h : RanksSeparated l)
    (hp : l'.Perm l) (hs : Sorted l') :
    (∀ x, (l'.filter (fun y => y.cmp x == .eq)).Perm ((sortStable l).filter (fun y => y.cmp x == .eq))) ∧
      l'.map (rankKey l) = (sortStable l).map (rankKey l) :=
  any_sort_eq_model_up_to_ties_of_trans l l' (cmpTransOn_of_separated h) hp hs

/-- index form: the `i`-th item of any ascending rearrangement compares `Equal` to the `i`-th item
    of the model's list — an unstable sort can only differ from the model by permuting ties -/
theorem any_sort_pointwise_tied (l l' : List Rank) (h : RanksSeparated l) (hp : l'.Perm l) (hs : Sorted l')
    (i : Nat) (hi : i < l'.length) (hi' : i < (sortStable l).length) :
    l'[i].cmp (sortStable l)[i] = .eq := by
  have hk := List.getElem_of_eq (any_sort_eq_model_up_to_ties l l' h hp hs).2 (by simpa using hi)
  rw [List.getElem_map, List.getElem_map] at hk
  exact (rankKey_eq_iff h (hp.subset (List.getElem_mem hi))
    (mem_sortStable.mp (List.getElem_mem hi'))).mp hk

/-- an UNSTABLE sort of a list WITHOUT ties (no two items compare `Equal`) is the model's list:
    there `sort_unstable` and `sort` cannot differ.  No transitivity needed. -/
theorem any_sort_eq_model_of_no_ties (l l' : List Rank)
    (hnt : l.Pairwise (fun a b => a.cmp b ≠ .eq)) (hp : l'.Perm l) (hs : Sorted l') :
    l' = sortStable l := by
  apply eq_sortStable_of_sorted_stable l l' hp hs
  intro x hx
  -- the class of `x` holds only `x`
  have hcls : ∀ y ∈ l.filter (fun y => y.cmp x == .eq), y = x := by
    intro y hy
    obtain ⟨hyl, hyx⟩ := List.mem_filter.mp hy
    apply Classical.byContradiction
    intro hne
    exact List.Pairwise.forall_of_forall_of_flip (R := fun a b => a ≠ b → a.cmp b ≠ .eq) (fun _ _ h => absurd rfl h)
      (hnt.imp fun {a b} h (_ : a ≠ b) => h) (hnt.imp fun {a b} h (_ : b ≠ a) h' => h ((cmp_eq_symm a b).mpr h'))
      hyl hx hne (by simpa using hyx)
  have h1 : l.filter (fun y => y.cmp x == .eq) = List.replicate (l.filter (fun y => y.cmp x == .eq)).length x :=
    List.eq_replicate_iff.mpr ⟨rfl, hcls⟩
  have h2 := hp.filter (fun y => y.cmp x == .eq)
  rw [h1] at h2
  rw [List.perm_replicate.mp h2, ← h1]

/-! ## 5. the hypothesis is needed -/

/-- the known non-transitive triple (`C07.not_preorder_witness`), as a candidate list:
    `Other 10 = Emoji 10 = Emoji 1` but `Other 10 > Emoji 1` -/
def badList : List Rank := [.other ['w'] 10, .emoji ['a'] 10, .emoji ['b'] 1]

/-- on `badList` the comparator is not transitive, the list is not separated, and the contract of
    a stable sort CANNOT be met: the tie class of `Emoji 10` is the whole list, so stability forces
    the output to be the input, which is not ascending.  No list is a stable sort of `badList` —
    Rust's `slice::sort` is outside its specification there (unspecified order or panic); the
    model's sort returns the input unchanged, which is not ascending.  (Two DIFFERENT stable sorts
    of one list are impossible for any list: `stable_sort_unique`.) -/
theorem no_stable_sort_without_transitivity :
    ¬ CmpTransOn badList ∧ ¬ RanksSeparated badList ∧ (∀ l', ¬ IsStableSortOf badList l') ∧
      sortStable badList = badList ∧ ¬ Sorted (sortStable badList) := by
  have ht : ¬ CmpTransOn badList := by unfold CmpTransOn; decide +kernel
  refine ⟨ht, fun h => ht (cmpTransOn_of_separated h), ?_, by decide +kernel, by decide +kernel⟩
  intro l' h
  have hs := h.sorted
  rw [eq_of_stable_of_all_tied h.perm (by decide +kernel) (h.stable (.emoji ['a'] 10) (by decide +kernel))] at hs
  revert hs
  decide +kernel

/-- without transitivity an unstable sort need not agree with the model up to ties: on
    `[Emoji 1, Other 10, Emoji 10]` both the model's list `[Emoji 1, Other 10, Emoji 10]` and
    `[Emoji 10, Emoji 1, Other 10]` are ascending rearrangements, but at position 1 they carry
    `Other 10` and `Emoji 1`, which are not tied -/
theorem up_to_ties_needs_transitivity :
    let l := [Rank.emoji ['b'] 1, .other ['w'] 10, .emoji ['a'] 10]
    let l' := [Rank.emoji ['a'] 10, .emoji ['b'] 1, .other ['w'] 10]
    l'.Perm l ∧ Sorted l' ∧ Sorted (sortStable l) ∧ sortStable l = l ∧
      (l'.zip (sortStable l)).map (fun p => p.1.cmp p.2) = [.eq, .lt, .eq] := by
  decide +kernel

/-! ## 6. non-vacuity -/

/-- a candidate list with all four kinds of items, several ties, in scrambled order -/
def demo : List Rank :=
  [.last ['t'] 2, .other ['b'] 10, .emoji ['☺'] 1, .other ['c'] 10, .first ['f'], .other ['a'] 0,
   .emoji ['e'] 2, .last ['x'] 1]

/-- `demo` satisfies the hypothesis of the theorems -/
theorem demo_separated : RanksSeparated demo := by
  apply separated_of_nowrap
  · intro s n hn
    simp [demo] at hn
    rcases hn with ⟨_, rfl⟩ | ⟨_, rfl⟩ | ⟨_, rfl⟩ <;> omega
  · intro s e he
    simp [demo] at he
    rcases he with ⟨_, rfl⟩ | ⟨_, rfl⟩ <;> omega

/-- the model's list for `demo`: auto-correct item, exact match, the two emoji in input order, the
    two distance-10 words in input order, the `Last` items by number -/
example : sortStable demo =
    [.first ['f'], .other ['a'] 0, .emoji ['☺'] 1, .emoji ['e'] 2, .other ['b'] 10, .other ['c'] 10,
     .last ['x'] 1, .last ['t'] 2] := by decide +kernel

/-- non-vacuity of `sortStable_isStableSortOf` (by the theorem, and directly by evaluation) -/
example : IsStableSortOf demo (sortStable demo) := sortStable_isStableSortOf demo demo_separated
example : IsStableSortOf demo (sortStable demo) := by decide +kernel

/-- non-vacuity of `any_stable_sort_eq_model`: a list written down independently of the model is
    checked to be a stable sort of `demo`, hence it is the model's list -/
example : sortStable demo =
    [.first ['f'], .other ['a'] 0, .emoji ['☺'] 1, .emoji ['e'] 2, .other ['b'] 10, .other ['c'] 10,
     .last ['x'] 1, .last ['t'] 2] :=
  (any_stable_sort_eq_model demo _ demo_separated (by decide +kernel)).symm

/-- the specification is not trivially true: the ascending rearrangement with the two ties swapped
    is NOT a stable sort of `demo` -/
example : ¬ IsStableSortOf demo
    [.first ['f'], .other ['a'] 0, .emoji ['e'] 2, .emoji ['☺'] 1, .other ['c'] 10, .other ['b'] 10,
     .last ['x'] 1, .last ['t'] 2] := by decide +kernel

/-- non-vacuity of `any_sort_eq_model_up_to_ties`: that rearrangement is a legal `sort_unstable`
    result, differs from the model's list, and has the same tie-class keys at every position -/
example :
    let l' := [Rank.first ['f'], .other ['a'] 0, .emoji ['e'] 2, .emoji ['☺'] 1, .other ['c'] 10,
      .other ['b'] 10, .last ['x'] 1, .last ['t'] 2]
    l'.Perm demo ∧ Sorted l' ∧ l' ≠ sortStable demo ∧
      l'.map (rankKey demo) = [0, 1, 2, 2, 4, 4, 6, 7] ∧
      (sortStable demo).map (rankKey demo) = [0, 1, 2, 2, 4, 4, 6, 7] := by decide +kernel

/-- non-vacuity of `any_sort_eq_model_of_no_ties`: a list of all four kinds without ties -/
example : [Rank.last ['t'] 2, .other ['b'] 10, .emoji ['☺'] 1, .first ['f'], .other ['a'] 0].Pairwise
    (fun a b => a.cmp b ≠ .eq) := by decide +kernel

end Riti.SortSpec
