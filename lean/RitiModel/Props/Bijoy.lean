/-
Props/Bijoy — properties of the Bijoy-2000 encoder model `Riti.bijoy` (Model/Bijoy.lean, a transcription of
poriborton `bijoy2000::unicode_to_bijoy`, the encoder behind `Env.bijoy`): the output never contains a
Bengali-block code point (second half of C16, for ALL inputs), the encoder panics exactly on inputs containing one
of the five kar-range code points that `replace_kar` has no arm for, plain characters are copied; then the pre-edit
clause of C16 for an environment whose encoder is this model.
Agreement of the model with the real crate: Props/BijoySamples*.lean (kernel-checked samples) and
tools/BijoyRunAll.lean over tools/bijoy_pairs.tsv (all 159 426 dictionary words).
-/
import RitiModel.Lemmas.BijoyFast
import RitiModel.Props.C16
namespace Riti.Bijoy
open Riti Riti.Gen.Bijoy

/-! ### character level -/

/-- C16, second half: the Bijoy encoding never contains a Bengali-block code point (U+0980..U+09FF), for EVERY input —
every pushed character is a `MAP` value, a literal of the algorithm, or an input character taken by the catch-all arm,
which lies after the arm for the whole Bengali block. (Unmapped Bengali code points such as U+0980 or the nukta U+09BC
are dropped, not passed through.) -/
theorem bijoy_no_bengali {s t : List Char} (h : bijoy s = .ok t) :
    ∀ c ∈ t, ¬ (0x0980 ≤ c.toNat ∧ c.toNat ≤ 0x09FF) := by
  refine bijoy_pres (fun n hn => ?_) (fun _ _ hb => hb) h
  -- `Char.ofNat n` is `n`, or U+0000 when `n` is no scalar value
  unfold Char.ofNat
  split
  · exact emitted_clean n hn
  · decide

/-- the five code points on which poriborton panics, as characters: U+09C4 U+09C5 U+09C6 U+09C9 U+09CA -/
def BadKar (c : Char) : Prop := c.toNat ∈ badKars

instance (c : Char) : Decidable (BadKar c) := by unfold BadKar; infer_instance

/-- the encoder fails exactly when the input contains one of the five code points, and then with the `panic!` of
`replace_kar` -/
theorem bijoy_error_iff {s : List Char} {e : Panic} : bijoy s = .error e ↔ e = .bijoy ∧ ∃ c ∈ s, BadKar c := by
  have h : bijoy s = .error e ↔ encodeNat (s.map Char.toNat) = .error e := by
    rw [bijoy]; cases encodeNat (s.map Char.toNat) <;> simp
  rw [h, encodeNat_error_iff]
  refine and_congr_right fun _ => ⟨?_, fun ⟨c, hc, hb⟩ => ⟨c.toNat, List.mem_map_of_mem hc, hb⟩⟩
  rintro ⟨_, hn, hb⟩
  obtain ⟨c, hc, rfl⟩ := List.mem_map.1 hn
  exact ⟨c, hc, hb⟩

/-- totality: without those five code points the encoder returns normally -/
theorem bijoy_total {s : List Char} (h : ∀ c ∈ s, ¬ BadKar c) : ∃ t, bijoy s = .ok t := by
  cases hb : bijoy s with
  | ok t => exact ⟨t, rfl⟩
  | error e =>
    obtain ⟨-, c, hc, hbad⟩ := bijoy_error_iff.1 hb
    exact absurd hbad (h c hc)

theorem bijoy_ok_iff {s : List Char} : (∃ t, bijoy s = .ok t) ↔ ∀ c ∈ s, ¬ BadKar c := by
  refine ⟨fun ⟨_, ht⟩ c hc hb => ?_, bijoy_total⟩
  rw [bijoy_error_iff.2 ⟨rfl, c, hc, hb⟩] at ht
  cases ht

/-- the encoder panics EXACTLY when the input contains one of U+09C4 U+09C5 U+09C6 U+09C9 U+09CA, wherever it
stands (the generic kar arm `c if is_kar(c)` precedes every arm that could swallow it) -/
theorem bijoy_panics_iff (s : List Char) : bijoy s = .error .bijoy ↔ ∃ c ∈ s, BadKar c :=
  bijoy_error_iff.trans (and_iff_right rfl)

/-- a character no arm treats specially -/
def Plain (c : Char) : Prop := PlainN c.toNat

instance (c : Char) : Decidable (Plain c) := by unfold Plain; infer_instance

/-- ASCII characters are plain -/
theorem plain_of_ascii {c : Char} (h : c.toNat < 128) : Plain c := by
  simp only [Plain, PlainN, Ben]; omega

/-- plain text after hasanta-free text is appended unchanged: if `s` contains no hasanta (U+09CD) and `p` is plain,
`bijoy (s ++ p)` is `bijoy s` followed by `p` (and panics iff `bijoy s` does).  The hasanta side condition is needed:
right after a hasanta ANY character, ASCII included, is swallowed into the conjunct buffer (`bijoy "ক্a" = ""`). -/
theorem bijoy_append_plain {s p : List Char} (hs : ∀ c ∈ s, c.toNat ≠ 0x09CD) (hp : ∀ c ∈ p, Plain c) :
    bijoy (s ++ p) = (match bijoy s with | .error e => .error e | .ok t => .ok (t ++ p)) := by
  simp only [bijoy, List.map_append, encodeNat_append_plain (List.forall_mem_map.2 hs) (List.forall_mem_map.2 hp)]
  cases encodeNat (s.map Char.toNat) with
  | error e => rfl
  | ok t => simp [Function.comp_def]

/-- the empty string encodes to the empty string -/
theorem bijoy_nil : bijoy [] = .ok [] := by decide

/-- ASCII (and every other non-Bengali text without curly quotes, ZWJ/ZWNJ, danda) passes through unchanged -/
theorem bijoy_ascii_passthrough {s : List Char} (h : ∀ c ∈ s, Plain c) : bijoy s = .ok s := by
  simpa [bijoy_nil] using bijoy_append_plain (s := []) nofun h

/-! ### C16 with the real encoder plugged in -/

/-- C16, second half, closed: when the environment's encoder IS the poriborton model and ANSI output is on, the
pre-edit text of every candidate of a returned list contains no Bengali-block code point -/
theorem preedit_no_bengali (env : Env) (henv : env.bijoy = bijoy) (cfg : Cfg) (ha : cfg.ansi = true) (sg : Sugg)
    (hf : C16.flag sg = cfg.ansi) (i : Nat) (c t : Str) (h : sg.getSuggestion i = .ok c)
    (ht : sg.getPreEdit env i = .ok t) : ∀ ch ∈ t, ¬ (0x0980 ≤ ch.toNat ∧ ch.toNat ≤ 0x09FF) := by
  rw [C16.preedit_of_returned env cfg sg hf i c h, ha, henv] at ht
  exact bijoy_no_bengali ht

/-- … and reading a pre-edit text back panics only if the candidate contains one of the five code points -/
theorem preedit_panics_only_on_badKar (env : Env) (henv : env.bijoy = bijoy) (cfg : Cfg) (ha : cfg.ansi = true)
    (sg : Sugg) (hf : C16.flag sg = cfg.ansi) (i : Nat) (c : Str) (h : sg.getSuggestion i = .ok c)
    (hc : ∀ ch ∈ c, ¬ BadKar ch) : ∃ t, sg.getPreEdit env i = .ok t := by
  rw [C16.preedit_of_returned env cfg sg hf i c h, ha, henv]
  exact bijoy_total hc

/-! ### witnesses and non-vacuity -/

/-- the longer test vectors below are evaluated with the cheaper `MAP` look-up of Lemmas/BijoyFast -/
theorem bijoy_eq_fast : bijoy = bijoyW getFast := by
  funext s; rw [getFast_eq, bijoyW_mapGet]

/-- the five one-character witnesses of the panic (U+09C4 is reachable from Probhat AltGr+d) -/
example : bijoy [Char.ofNat 0x09C4] = .error .bijoy ∧ bijoy [Char.ofNat 0x09C5] = .error .bijoy ∧
    bijoy [Char.ofNat 0x09C6] = .error .bijoy ∧ bijoy [Char.ofNat 0x09C9] = .error .bijoy ∧
    bijoy [Char.ofNat 0x09CA] = .error .bijoy := by decide +kernel

/-- the panic does not depend on the position: after a consonant, after a hasanta, inside ASCII -/
example : bijoy ("ক".toList ++ [Char.ofNat 0x09C4]) = .error .bijoy ∧
    bijoy ("ক্".toList ++ [Char.ofNat 0x09C4]) = .error .bijoy ∧
    bijoy ("ab".toList ++ [Char.ofNat 0x09C5] ++ "cd".toList) = .error .bijoy := by decide +kernel

/-- non-vacuity of `bijoy_no_bengali`, `bijoy_total`: a real word with reph, ya-fola, conjunct, front kar -/
example : (∀ c ∈ "কর্তব্যে স্ত্রী".toList, ¬ BadKar c) ∧ bijoy "কর্তব্যে স্ত্রী".toList = .ok "KZ©‡e¨ ¯¿x".toList := by
  rw [bijoy_eq_fast]; decide +kernel

/-- unmapped Bengali-block code points (U+0980 anji, U+09BC nukta, U+09E2 vocalic-L sign, U+09FA isshar, the
unassigned U+09FF) and unknown conjuncts (ক্খ) are DROPPED, not passed through — which is why `bijoy_no_bengali`
holds without any side condition -/
example : bijoy [Char.ofNat 0x0980] = .ok [] ∧ bijoy [Char.ofNat 0x09BC] = .ok [] ∧
    bijoy ("a".toList ++ [Char.ofNat 0x09E2, Char.ofNat 0x09FA, Char.ofNat 0x09FF] ++ "b".toList) = .ok "ab".toList ∧
    bijoy "ক্খ".toList = .ok [] := by rw [bijoy_eq_fast]; decide +kernel

/-- non-vacuity of `bijoy_ascii_passthrough` (ASCII, Latin-1, a 4-byte emoji), and its sharpness: after a hasanta
an ASCII letter is swallowed into the (unmapped, hence dropped) conjunct buffer -/
example : (∀ c ∈ "Hello, World! é 😀".toList, Plain c) ∧
    bijoy "Hello, World! é 😀".toList = .ok "Hello, World! é 😀".toList ∧
    bijoy "ক্a".toList = .ok [] := by rw [bijoy_eq_fast]; decide +kernel

/-- non-vacuity of `bijoy_append_plain`: Bengali text followed by ASCII punctuation and a Latin word -/
example : (∀ c ∈ "বাংলা".toList, c.toNat ≠ 0x09CD) ∧ (∀ c ∈ "! (ok)".toList, Plain c) ∧
    bijoy "বাংলা! (ok)".toList = .ok ("evsjv".toList ++ "! (ok)".toList) := by rw [bijoy_eq_fast]; decide +kernel

/-- non-vacuity of `preedit_no_bengali`: an ANSI list with the candidate `কি`, pre-edit text `wK` -/
example : ∃ (env : Env) (sg : Sugg), env.bijoy = bijoy ∧ C16.flag sg = true ∧
    sg.getSuggestion 0 = .ok "কি".toList ∧ sg.getPreEdit env 0 = .ok "wK".toList :=
  ⟨{ C16.witnessEnv with bijoy := bijoy }, .full [] ["কি".toList] 0 true, rfl, rfl, by decide +kernel, by decide +kernel⟩

end Riti.Bijoy
