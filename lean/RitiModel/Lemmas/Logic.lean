/-
Lemmas/Logic — reasoning through an `if` without `split`; characters a test tells apart; `Char.ofNat` on a scalar value.
-/
namespace Riti

/-- Case distinction on ONE `if` of the goal. `split` is costly on a goal with many `if`s: after each case it
    simplifies every other `if` of the goal again. -/
theorem ite_ind {α : Sort _} {Q : α → Prop} {c : Prop} [Decidable c] {a b : α} (h1 : c → Q a) (h2 : ¬c → Q b) :
    Q (if c then a else b) := by
  split
  · exact h1 ‹_›
  · exact h2 ‹_›

theorem ite_app {α β : Sort _} {f : β → α} {c : Prop} [Decidable c] {x y : α} {a b : β}
    (h1 : c → x = f a) (h2 : ¬c → y = f b) : (if c then x else y) = f (if c then a else b) := by
  split
  · exact h1 ‹_›
  · exact h2 ‹_›

theorem ne_of_class {f : Char → Bool} {c d : Char} (hc : f c = true) (hd : f d = false) : (c == d) = false :=
  beq_eq_false_iff_ne.mpr fun h => by rw [h, hd] at hc; cases hc

/-- The hypothesis is `n.isValidChar` spelt out, so that `omega` discharges it for a number in a known range. -/
theorem toNat_ofNat_of_valid {n : Nat} (h : n < 0xD800 ∨ (0xDFFF < n ∧ n < 0x110000)) : (Char.ofNat n).toNat = n := by
  unfold Char.ofNat
  rw [dif_pos h]
  simp [Char.ofNatAux, Char.toNat]

end Riti
