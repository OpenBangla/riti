/-
Lemmas/Store — the association lists of the model (`alookup` / `ainsert` of `Model/Basic`) are maps: they stand for the
`HashMap`s and `BTreeMap`s of riti (user store, auto-correct lists, memo, the members of a JSON object).
Look-up after insert, other keys untouched, keys stay distinct, what a fold of inserts builds.
The lemmas live in the sub-namespace `Riti.AList` (`open Riti.AList` to use them).
-/
import RitiModel.Model.Basic
namespace Riti.AList
open Riti

/-! ### look-up, for any `==` -/

theorem alookup_mem {α β : Type} [BEq α] {l : List (α × β)} {k : α} {v : β} (h : alookup l k = some v) :
    ∃ k', (k' == k) = true ∧ (k', v) ∈ l := by
  induction l with
  | nil => cases h
  | cons p rest ih =>
    unfold alookup at h
    split at h
    · cases h; exact ⟨_, ‹_›, List.mem_cons_self⟩
    · obtain ⟨k', hk, hm⟩ := ih h; exact ⟨k', hk, List.mem_cons_of_mem _ hm⟩

theorem alookup_append {α β : Type} [BEq α] (a b : List (α × β)) (k : α) :
    alookup (a ++ b) k = (alookup a k).or (alookup b k) := by
  induction a with
  | nil => simp [alookup]
  | cons x a ih =>
    obtain ⟨k', v'⟩ := x
    simp only [List.cons_append, alookup]
    split
    · simp
    · exact ih

theorem alookup_filter {α β : Type} [BEq α] (p : α × β → Bool) (st : List (α × β)) (k : α)
    (h : ∀ a b, (a == k) = true → p (a, b) = true) : alookup (st.filter p) k = alookup st k := by
  induction st with
  | nil => rfl
  | cons x st ih =>
    obtain ⟨a, b⟩ := x
    rw [List.filter_cons, alookup]
    split
    · rw [alookup, ih]
    · rw [ih, if_neg fun hk => ‹¬ _› (h a b hk)]

theorem ainsert_map {α β γ : Type} [BEq α] (g : β → γ) (st : List (α × β)) (k : α) (v : β) :
    ainsert (st.map (fun kv => (kv.1, g kv.2))) k (g v) = (ainsert st k v).map (fun kv => (kv.1, g kv.2)) := by
  induction st with
  | nil => simp [ainsert]
  | cons x xs ih =>
    obtain ⟨a, b⟩ := x
    simp only [List.map_cons, ainsert]
    split
    · simp
    · simp [ih]

section
variable {α β : Type} [BEq α] [LawfulBEq α]

/-! ### with a lawful `==`: look-up against membership -/

def akeys (st : List (α × β)) : List α := st.map Prod.fst

theorem alookup_mem_pair {l : List (α × β)} {k : α} {v : β} (h : alookup l k = some v) : (k, v) ∈ l :=
  have ⟨_, hk, hm⟩ := alookup_mem h
  eq_of_beq hk ▸ hm

theorem alookup_of_mem_nodup {l : List (α × β)} (hd : (akeys l).Nodup) {k : α} {v : β} (h : (k, v) ∈ l) :
    alookup l k = some v := by
  induction l with
  | nil => cases h
  | cons p r ih =>
    obtain ⟨hp, hr⟩ := List.nodup_cons.mp hd
    rcases List.mem_cons.mp h with rfl | hm
    · simp [alookup]
    · have : p.1 ≠ k := fun e => hp (e ▸ List.mem_map_of_mem (f := Prod.fst) hm)
      simp [alookup, this, ih hr hm]

theorem alookup_isSome_iff (st : List (α × β)) (k : α) : (alookup st k).isSome = true ↔ k ∈ akeys st := by
  induction st with
  | nil => simp [alookup, akeys]
  | cons p ps ih =>
    obtain ⟨a, b⟩ := p
    by_cases h : a = k
    · subst h; simp [alookup, akeys]
    · have hne : ¬ k = a := fun e => h e.symm
      unfold akeys at ih
      simp only [alookup, akeys, beq_iff_eq, h, if_false, List.map_cons, List.mem_cons, hne, false_or, ih]

theorem alookup_eq_none_iff (st : List (α × β)) (k : α) : alookup st k = none ↔ k ∉ akeys st := by
  rw [← alookup_isSome_iff]; cases alookup st k <;> simp

/-! ### one insert -/

theorem alookup_ainsert (st : List (α × β)) (k k' : α) (v : β) :
    alookup (ainsert st k v) k' = if k' == k then some v else alookup st k' := by
  rw [BEq.comm (a := k')]  -- the model compares `stored == asked`
  induction st with
  | nil => rfl
  | cons p ps ih =>
    obtain ⟨a, b⟩ := p
    by_cases hak : a = k
    · subst hak; by_cases h : a = k' <;> simp [ainsert, alookup, h]
    · by_cases h : k = k'
      · subst h; simp [ainsert, alookup, hak, ih]
      · simp [ainsert, alookup, hak, h, ih]

theorem alookup_ainsert_self (st : List (α × β)) (k : α) (v : β) : alookup (ainsert st k v) k = some v := by
  rw [alookup_ainsert, if_pos BEq.rfl]

theorem alookup_ainsert_ne (st : List (α × β)) (k k' : α) (v : β) (h : k' ≠ k) :
    alookup (ainsert st k v) k' = alookup st k' := by
  rw [alookup_ainsert, if_neg (by simpa using h)]

theorem alookup_ainsert_keeps (st : List (α × β)) (k k' : α) (v v' : β) (h : k' ≠ k)
    (hl : alookup st k' = some v') : alookup (ainsert st k v) k' = some v' := by
  rw [alookup_ainsert_ne st k k' v h, hl]

theorem akeys_ainsert (st : List (α × β)) (k : α) (v : β) :
    akeys (ainsert st k v) = if k ∈ akeys st then akeys st else akeys st ++ [k] := by
  induction st with
  | nil => simp [ainsert, akeys]
  | cons p ps ih =>
    obtain ⟨a, b⟩ := p
    by_cases h : a = k
    · subst h; simp [ainsert, akeys]
    · have hne : ¬ k = a := fun e => h e.symm
      unfold akeys at ih
      simp only [ainsert, akeys, beq_iff_eq, h, if_false, List.map_cons, List.mem_cons, hne, false_or, ih]
      split <;> rfl

theorem akeys_ainsert_nodup (st : List (α × β)) (k : α) (v : β) (h : (akeys st).Nodup) :
    (akeys (ainsert st k v)).Nodup := by
  rw [akeys_ainsert]
  split
  · exact h
  · next hk =>
    rw [List.nodup_append]
    refine ⟨h, by simp, ?_⟩
    intro a ha b hb
    simp at hb; subst hb
    intro e; subst e; exact hk ha

theorem akeys_subset_ainsert (st : List (α × β)) (k : α) (v : β) : ∀ a ∈ akeys st, a ∈ akeys (ainsert st k v) := by
  intro a ha
  rw [akeys_ainsert]; split
  · exact ha
  · simp [ha]

theorem ainsert_same (st : List (α × β)) (k : α) (v : β) (h : alookup st k = some v) : ainsert st k v = st := by
  induction st with
  | nil => simp [alookup] at h
  | cons p ps ih =>
    obtain ⟨a, b⟩ := p
    by_cases hak : a = k
    · subst hak; simp [alookup] at h; simp [ainsert, h]
    · have hb : (a == k) = false := by simpa using hak
      simp only [alookup, hb] at h
      simp [ainsert, hb, ih h]

theorem ainsert_fresh (st : List (α × β)) (k : α) (v : β) (h : k ∉ akeys st) : ainsert st k v = st ++ [(k, v)] := by
  induction st with
  | nil => rfl
  | cons a st ih =>
    obtain ⟨k', v'⟩ := a
    simp only [akeys, List.map_cons, List.mem_cons, not_or] at h
    have hne : (k' == k) = false := by simpa using fun e => h.1 e.symm
    simp only [ainsert, hne, List.cons_append]
    rw [ih h.2]; rfl

/-! ### a fold of inserts -/

theorem foldl_ainsert_nodup (acc m : List (α × β)) (h : (akeys (acc ++ m)).Nodup) :
    m.foldl (fun st kv => ainsert st kv.1 kv.2) acc = acc ++ m := by
  induction m generalizing acc with
  | nil => simp
  | cons kv m ih =>
    have hk : kv.1 ∉ akeys acc := by
      intro hmem
      simp only [akeys, List.map_append, List.map_cons] at h hmem
      exact (List.nodup_append.mp h).2.2 _ hmem _ List.mem_cons_self rfl
    simp only [List.foldl_cons]
    rw [ainsert_fresh _ _ _ hk, ih]
    · simp
    · simpa using h

/-- How the model turns the members of a JSON object into a map (`toStore`, `dedup`: serde calls `HashMap::insert` /
    `BTreeMap::insert` member by member): the LAST binding of a key in `m` wins. -/
theorem alookup_foldl_ainsert (m acc : List (α × β)) (k : α) :
    alookup (m.foldl (fun st kv => ainsert st kv.1 kv.2) acc) k = (alookup m.reverse k).or (alookup acc k) := by
  induction m generalizing acc with
  | nil => simp [alookup]
  | cons kv m ih =>
    obtain ⟨k', v'⟩ := kv
    rw [List.foldl_cons, ih, alookup_ainsert, List.reverse_cons, alookup_append]
    cases alookup m.reverse k with
    | some _ => rfl
    | none =>
      by_cases e : k' = k
      · subst e; simp [alookup]
      · have e' : ¬ k = k' := fun h => e h.symm
        simp [alookup, e, e']

end

end Riti.AList
