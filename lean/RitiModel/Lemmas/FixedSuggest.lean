/-
Lemmas/FixedSuggest — the candidate list of the fixed method (`create_dictionary_suggestion`): what a dictionary
hit and an emoji item are (`mem_fixedHits`, `mem_fixedEmoji`), the shape of the list handed to the sort
(`fixedCands_shape`), where the items of the final list come from (`forall_mem_fDict`, the counterpart of
`forall_mem_suggestList`), what any `sort_unstable`-like ordering (`IsSortPerm`) keeps, a concrete ordering
(`keySort`) showing that the contract is satisfiable, and a structurally recursive copy of the list for examples.
-/
import RitiModel.Model.Context
import RitiModel.Lemmas.Rank
import RitiModel.Lemmas.Phonetic
import RitiModel.Lemmas.Candidates
namespace Riti
open Gen

/-! ### `dedup()` -/

theorem dedupAdjacent_cons (x : Rank) (l : List Rank) :
    ∃ t, dedupAdjacent (x :: l) = x :: t ∧ t.Sublist l := by
  induction l generalizing x with
  | nil => exact ⟨[], by simp [dedupAdjacent]⟩
  | cons y ys ih =>
    simp only [dedupAdjacent]
    split
    · obtain ⟨t, ht, hs⟩ := ih x
      exact ⟨t, ht, hs.trans (List.sublist_cons_self y ys)⟩
    · obtain ⟨t, ht, hs⟩ := ih y
      exact ⟨y :: t, by rw [ht], hs.cons_cons y⟩

theorem dedupAdjacent_sublist (l : List Rank) : (dedupAdjacent l).Sublist l := by
  cases l with
  | nil => simp [dedupAdjacent]
  | cons x xs =>
    obtain ⟨t, ht, hs⟩ := dedupAdjacent_cons x xs
    rw [ht]; exact hs.cons_cons x

/-! ### the ZWNJs of traditional joining -/

/-- a filter that drops ZWNJ does not see the ZWNJs added for traditional joining -/
theorem filter_tradKarWord {p : Char → Bool} (hz : p cZWNJ = false) (d : Str) :
    (tradKarWord d).filter p = d.filter p := by
  induction d with
  | nil => rfl
  | cons c cs ih =>
    rw [tradKarWord, List.flatMap_cons, List.filter_append, ← tradKarWord, ih]
    cases hc : p c <;> split <;> simp [hz, hc]

theorem tradKar_strip (d : Str) :
    (tradKarWord d).filter (fun c => c != cZWNJ) = d.filter (fun c => c != cZWNJ) :=
  filter_tradKarWord (by simp) d

theorem cleanString_tradKar (d : Str) : cleanString (tradKarWord d) = cleanString d :=
  filter_tradKarWord (by decide) d

theorem cleanString_idem (w : Str) : cleanString (cleanString w) = cleanString w := by
  simp [cleanString, List.filter_filter]

/-! ### the candidates -/

@[simp] theorem wrapText_nil (t : Str) : wrapText [] [] t = t := by simp [wrapText]

theorem variant_newSuggestion (a b : Str) : (Rank.newSuggestion a b).variant = .other := rfl

/-- what a dictionary hit is: a word of the table selected by the first character, extending the
    cleaned typed word by at most `needCharsUpto` characters of the regex class; shown with ZWNJ
    inserted under traditional joining; ranked by its distance to the typed word -/
theorem mem_fixedHits {env : Env} {cfg : Cfg} {word : Str} {r : Rank} (h : r ∈ fixedHits env cfg word) :
    ∃ tbl d, fixedTableName word = some tbl ∧ d ∈ env.fixedTable tbl ∧ cleanString word <+: d ∧
      (d.drop (cleanString word).length).length ≤ needCharsUpto (cleanString word).length ∧
      (∀ c ∈ d.drop (cleanString word).length, inRegexClass c = true) ∧
      r = Rank.newSuggestion (if cfg.fixedKar then tradKarWord d else d) word := by
  unfold fixedHits at h
  split at h
  · simp at h
  · rename_i tbl htbl
    simp only [List.mem_map, List.mem_filter] at h
    obtain ⟨d, ⟨hd, hm⟩, rfl⟩ := h
    simp only [fixedMatches, Bool.and_eq_true, List.all_eq_true, decide_eq_true_eq] at hm
    exact ⟨tbl, d, htbl, hd, List.isPrefixOf_iff_prefix.mp hm.1.1, hm.2, hm.1.2, rfl⟩

theorem fixedHits_variant {env : Env} {cfg : Cfg} {word : Str} {r : Rank} (h : r ∈ fixedHits env cfg word) :
    r.variant = .other := by
  obtain ⟨_, _, _, _, _, _, _, rfl⟩ := mem_fixedHits h
  rfl

theorem fixedBase_shape (env : Env) (cfg : Cfg) (parts : Parts) :
    ∃ t : List Rank, t.Sublist (fixedHits env cfg parts.word) ∧
      fixedBase env cfg parts =
        wrapR parts.pre parts.trail (Rank.first parts.word) :: t.map (wrapR parts.pre parts.trail) := by
  obtain ⟨t, ht, hs⟩ := dedupAdjacent_cons (Rank.first parts.word) (fixedHits env cfg parts.word)
  exact ⟨t, hs, by simp [fixedBase, wrapAll_eq, ht]⟩

/-- what an emoji item is (there are none in ANSI mode): the emoji of the raw keys as an emoticon, or an emoji listed
    for the word (without its ZWNJs) as a Bengali name, wrapped and numbered from 1 -/
theorem mem_fixedEmoji {env : Env} {cfg : Cfg} {parts : Parts} {typed : Str} {r : Rank}
    (h : r ∈ fixedEmoji env cfg parts typed) :
    cfg.ansi = false ∧
      ((∃ e, env.emoticon typed = some e ∧ r = Rank.emoji e Gen.emojiDefaultRank) ∨
       ∃ es x n, env.emojiBengali (parts.word.filter (fun c => c != cZWNJ)) = some es ∧ (x, n) ∈ es.zipIdx 1 ∧
         r = Rank.emoji (wrapText parts.pre parts.trail x) n) := by
  unfold fixedEmoji at h
  split at h
  · cases h
  · next ha =>
    refine ⟨by simpa using ha, ?_⟩
    split at h
    · next e he => exact .inl ⟨e, he, List.mem_singleton.1 h⟩
    · split at h
      · next es hes =>
        obtain ⟨⟨x, n⟩, hx, rfl⟩ := List.mem_map.1 h
        exact .inr ⟨es, x, n, hes, hx, rfl⟩
      · cases h

theorem fixedEmoji_variant {env : Env} {cfg : Cfg} {parts : Parts} {typed : Str} {r : Rank}
    (h : r ∈ fixedEmoji env cfg parts typed) : r.variant = .emoji := by
  obtain ⟨_, ⟨_, _, rfl⟩ | ⟨_, _, _, _, _, rfl⟩⟩ := mem_fixedEmoji h <;> rfl

/-- the candidate list handed to the sort does not depend on the English option -/
theorem fixedCands_cands (env : Env) (cfg : Cfg) (s : FState) :
    (fixedCands env cfg s).cands =
      fixedBase env cfg (fixedParts cfg s.buffer) ++ fixedEmoji env cfg (fixedParts cfg s.buffer) s.typed := by
  unfold fixedCands; simp only; split <;> rfl

theorem fixedCands_keep_english (env : Env) (cfg : Cfg) (s : FState) :
    ((fixedCands env cfg s).keep = 8 ∧ (fixedCands env cfg s).english = some (Rank.last s.typed 1) ∧
        cfg.english = true ∧ s.buffer ≠ s.typed) ∨
    ((fixedCands env cfg s).keep = 9 ∧ (fixedCands env cfg s).english = none ∧
        (cfg.english = false ∨ s.buffer = s.typed)) := by
  unfold fixedCands; simp only
  split
  · rename_i h
    simp at h
    exact Or.inl ⟨rfl, rfl, h.1, h.2⟩
  · rename_i h
    simp at h
    refine Or.inr ⟨rfl, rfl, ?_⟩
    cases he : cfg.english with
    | false => exact Or.inl rfl
    | true => exact Or.inr (h he)

theorem fDictSuggestion_list (w : World) (cfg : Cfg) (s : FState) :
    (fDictSuggestion w cfg s).1.suggestions =
      (w.sorter (fixedCands w.env cfg s).cands).take (fixedCands w.env cfg s).keep ++
        (fixedCands w.env cfg s).english.toList := rfl

/-- the candidates: the composed word as `First`, wrapped dictionary hits, emoji items -/
theorem fixedCands_shape (env : Env) (cfg : Cfg) (s : FState) :
    ∃ t : List Rank, t.Sublist (fixedHits env cfg (fixedParts cfg s.buffer).word) ∧
      (fixedCands env cfg s).cands =
        wrapR (fixedParts cfg s.buffer).pre (fixedParts cfg s.buffer).trail (Rank.first (fixedParts cfg s.buffer).word) ::
          (t.map (wrapR (fixedParts cfg s.buffer).pre (fixedParts cfg s.buffer).trail) ++
            fixedEmoji env cfg (fixedParts cfg s.buffer) s.typed) := by
  obtain ⟨t, hs, he⟩ := fixedBase_shape env cfg (fixedParts cfg s.buffer)
  exact ⟨t, hs, by rw [fixedCands_cands, he]; rfl⟩

theorem fixedCands_variant {env : Env} {cfg : Cfg} {s : FState} {r : Rank}
    (h : r ∈ (fixedCands env cfg s).cands) :
    r.variant = .first ∨ r.variant = .other ∨ r.variant = .emoji := by
  obtain ⟨t, hsub, he⟩ := fixedCands_shape env cfg s
  rw [he, List.mem_cons, List.mem_append, List.mem_map] at h
  rcases h with rfl | ⟨r0, hr0, rfl⟩ | h
  · exact Or.inl (wrapR_variant _ _ _)
  · exact Or.inr (Or.inl (by simpa using fixedHits_variant (hsub.subset hr0)))
  · exact Or.inr (Or.inr (fixedEmoji_variant h))

/-- **where the fixed method's candidates come from**: a property holds of every item of the final list — for every
    ordering that permutes — as soon as it holds of the wrapped composed word, of every wrapped dictionary hit, of
    the emoji items and of the raw-keys item -/
theorem forall_mem_fDict {w : World} (hs : ∀ l, (w.sorter l).Perm l) {cfg : Cfg} {s : FState} {Q : Rank → Prop}
    (hfirst : Q (wrapR (fixedParts cfg s.buffer).pre (fixedParts cfg s.buffer).trail (.first (fixedParts cfg s.buffer).word)))
    (hhit : ∀ r0 ∈ fixedHits w.env cfg (fixedParts cfg s.buffer).word,
      Q (wrapR (fixedParts cfg s.buffer).pre (fixedParts cfg s.buffer).trail r0))
    (hemoji : ∀ r ∈ fixedEmoji w.env cfg (fixedParts cfg s.buffer) s.typed, Q r)
    (heng : cfg.english = true → s.buffer ≠ s.typed → Q (.last s.typed 1)) :
    ∀ r ∈ (fDictSuggestion w cfg s).1.suggestions, Q r := by
  intro r hr
  rw [fDictSuggestion_list, List.mem_append] at hr
  rcases hr with hr | hr
  · obtain ⟨t, hsub, he⟩ := fixedCands_shape w.env cfg s
    have hr := ((hs _).mem_iff).mp (List.mem_of_mem_take hr)
    rw [he, List.mem_cons, List.mem_append, List.mem_map] at hr
    rcases hr with rfl | ⟨r0, hr0, rfl⟩ | hr
    · exact hfirst
    · exact hhit r0 (hsub.subset hr0)
    · exact hemoji r hr
  · rcases fixedCands_keep_english w.env cfg s with ⟨_, he, h1, h2⟩ | ⟨_, he, _⟩
    · rw [he] at hr; cases List.mem_singleton.mp hr; exact heng h1 h2
    · rw [he] at hr; cases hr

/-! ### the ordering contract, and what any admissible ordering keeps -/

/-- what `sort_unstable` guarantees: a permutation of the input in which no item is followed by
    a strictly smaller one.  Order among equal items is left open. -/
def IsSortPerm (sorter : List Rank → List Rank) : Prop :=
  ∀ l, (sorter l).Perm l ∧ (sorter l).Pairwise (fun a b => a.le b = true)

theorem sorted_head_first {sorted rest : List Rank} {F : Rank}
    (hp : sorted.Perm (F :: rest)) (hpw : sorted.Pairwise (fun a b => a.le b = true))
    (hF : F.variant = .first) (hrest : ∀ r ∈ rest, r.variant ≠ .first) :
    ∃ tl, sorted = F :: tl := by
  cases sorted with
  | nil => simpa using hp.length_eq
  | cons h tl =>
    rcases List.mem_cons.mp (hp.mem_iff.mp List.mem_cons_self) with rfl | hmem
    · exact ⟨tl, rfl⟩
    · -- otherwise `F` stands after `h`, which is not `First`
      have hFtl : F ∈ tl :=
        (List.mem_cons.mp (hp.mem_iff.mpr List.mem_cons_self)).resolve_left fun e => hrest h hmem (e ▸ hF)
      have := (List.pairwise_cons.mp hpw).1 F hFtl
      rw [le_first_false hF (hrest h hmem)] at this
      cases this

theorem mem_take_of_few_le {sorted l : List Rank} {x : Rank} {k : Nat}
    (hp : sorted.Perm l) (hpw : sorted.Pairwise (fun a b => a.le b = true)) (hx : x ∈ l)
    (hk : (l.filter (fun y => y.le x)).length ≤ k) : x ∈ sorted.take k := by
  obtain ⟨A, B, rfl⟩ := List.append_of_mem (hp.mem_iff.mpr hx)
  -- the items in front of `x` are `≤ x`: with `x` itself they are among the at most `k` items `≤ x`
  have hA : ∀ y ∈ A, y.le x = true := fun y hy => (List.pairwise_append.mp hpw).2.2 y hy x List.mem_cons_self
  rw [← (hp.filter _).length_eq, List.filter_append, List.filter_eq_self.mpr hA,
    List.filter_cons_of_pos (by simp [Rank.le, cmp_refl]), List.length_append, List.length_cons] at hk
  exact List.mem_take_iff_getElem.mpr ⟨A.length, by simp; omega, by simp⟩

/-- every admissible ordering starts with the composed word, the only `First` item -/
theorem sorter_head {w : World} (hs : IsSortPerm w.sorter) (cfg : Cfg) (s : FState) :
    ∃ tl, w.sorter (fixedCands w.env cfg s).cands =
      wrapR (fixedParts cfg s.buffer).pre (fixedParts cfg s.buffer).trail (.first (fixedParts cfg s.buffer).word) :: tl := by
  obtain ⟨t, hsub, he⟩ := fixedCands_shape w.env cfg s
  have h := hs (fixedCands w.env cfg s).cands
  rw [he] at h ⊢
  refine sorted_head_first h.1 h.2 (wrapR_variant _ _ _) ?_
  intro r hr
  rcases List.mem_append.mp hr with hr | hr
  · obtain ⟨r0, hr0, rfl⟩ := List.mem_map.mp hr
    simp [fixedHits_variant (hsub.subset hr0)]
  · simp [fixedEmoji_variant hr]

/-- whatever an admissible ordering does with equal ranks and wherever emoji are interleaved, the Bengali candidates
    (`First`, `Other`) that survive the truncation stand in non-decreasing stored number -/
theorem sorter_take_num_le {w : World} (hs : IsSortPerm w.sorter) (cfg : Cfg) (s : FState) :
    ((w.sorter (fixedCands w.env cfg s).cands).take (fixedCands w.env cfg s).keep).Pairwise
      (fun a b => a.variant ≠ .emoji → b.variant ≠ .emoji → a.num ≤ b.num) := by
  -- a candidate handed to the sort that is no emoji is `First` or `Other`
  have hkind : ∀ r ∈ (w.sorter (fixedCands w.env cfg s).cands).take (fixedCands w.env cfg s).keep,
      r.variant ≠ .emoji → r.variant = .first ∨ r.variant = .other := fun r hr he =>
    (or_assoc.mpr (fixedCands_variant (((hs _).1.mem_iff).mp (List.mem_of_mem_take hr)))).resolve_right he
  exact (((hs _).2.sublist (List.take_sublist _ _)).imp_of_mem fun ha hb hab hae hbe =>
    num_le_of_le (hkind _ ha hae) (hkind _ hb hbe) hab)

/-! ### an admissible ordering exists -/

def keyInsert (x : Rank) : List Rank → List Rank
  | [] => [x]
  | y :: ys => if keyLe x y then x :: y :: ys else y :: keyInsert x ys

/-- insertion sort by class and number: one of the orderings `sort_unstable` may produce -/
def keySort : List Rank → List Rank
  | [] => []
  | x :: xs => keyInsert x (keySort xs)

theorem keyInsert_perm (x : Rank) (l : List Rank) : (keyInsert x l).Perm (x :: l) := by
  induction l with
  | nil => simp [keyInsert]
  | cons y ys ih =>
    simp only [keyInsert]
    split
    · exact List.Perm.refl _
    · exact (List.Perm.cons y ih).trans (List.Perm.swap x y ys)

theorem keySort_perm (l : List Rank) : (keySort l).Perm l := by
  induction l with
  | nil => simp [keySort]
  | cons x xs ih => exact (keyInsert_perm x _).trans (List.Perm.cons x ih)

theorem keyInsert_sorted (x : Rank) (l : List Rank) (h : l.Pairwise keyLe) : (keyInsert x l).Pairwise keyLe := by
  induction l with
  | nil => simp [keyInsert]
  | cons y ys ih =>
    obtain ⟨hy, hys⟩ := List.pairwise_cons.mp h
    simp only [keyInsert]
    split
    · next hxy =>
      exact List.pairwise_cons.mpr ⟨List.forall_mem_cons.mpr ⟨hxy, fun z hz => keyLe_trans hxy (hy z hz)⟩, h⟩
    · next hxy =>
      refine List.pairwise_cons.mpr ⟨fun z hz => ?_, ih hys⟩
      rcases List.mem_cons.mp ((keyInsert_perm x ys).mem_iff.mp hz) with rfl | hz
      · exact (keyLe_total _ _).resolve_left hxy
      · exact hy z hz

theorem keySort_sorted (l : List Rank) : (keySort l).Pairwise keyLe := by
  induction l with
  | nil => simp [keySort]
  | cons x xs ih => exact keyInsert_sorted x _ ih

theorem isSortPerm_keySort : IsSortPerm keySort :=
  fun l => ⟨keySort_perm l, (keySort_sorted l).imp le_of_keyLe⟩

/-! ### a kernel-reducible copy

`dedupAdjacent` is compiled by well-founded recursion (its first recursive call is on `x :: rest`,
not on a sub-term), so `decide` cannot evaluate it.  The copies below are structurally recursive
and provably equal; concrete examples rewrite with `fDict_list_eq_R` and then `decide`. -/

/-- `dedupAdjacent (x :: l)` with the kept item carried along -/
def dedupFrom : Rank → List Rank → List Rank
  | x, [] => [x]
  | x, y :: rest => if x.sameText y then dedupFrom x rest else x :: dedupFrom y rest

theorem dedupAdjacent_eq_dedupFrom (x : Rank) (l : List Rank) : dedupAdjacent (x :: l) = dedupFrom x l := by
  induction l generalizing x with
  | nil => simp [dedupAdjacent, dedupFrom]
  | cons y ys ih => simp only [dedupAdjacent, dedupFrom]; split <;> simp [ih]

/-- `fixedCands`, evaluable by the kernel -/
def fixedCandsR (env : Env) (cfg : Cfg) (s : FState) : FixedCands :=
  let parts := fixedParts cfg s.buffer
  let cands := wrapAll parts (dedupFrom (Rank.first parts.word) (fixedHits env cfg parts.word)) ++
    fixedEmoji env cfg parts s.typed
  if cfg.english && s.buffer != s.typed then ⟨cands, 8, some (Rank.last s.typed 1)⟩
  else ⟨cands, 9, none⟩

theorem fixedCands_eq_R (env : Env) (cfg : Cfg) (s : FState) : fixedCands env cfg s = fixedCandsR env cfg s := by
  simp [fixedCands, fixedCandsR, fixedBase, dedupAdjacent_eq_dedupFrom]

/-- the list of `fDictSuggestion`, evaluable by the kernel -/
def fDictListR (w : World) (cfg : Cfg) (s : FState) : List Rank :=
  (w.sorter (fixedCandsR w.env cfg s).cands).take (fixedCandsR w.env cfg s).keep ++
    (fixedCandsR w.env cfg s).english.toList

theorem fDict_list_eq_R (w : World) (cfg : Cfg) (s : FState) :
    (fDictSuggestion w cfg s).1.suggestions = fDictListR w cfg s := by
  simp [fDictSuggestion, fDictListR, fixedCands_eq_R]

theorem fDict_sugg_eq_R (w : World) (cfg : Cfg) (s : FState) :
    (fDictSuggestion w cfg s).2 = .full s.buffer ((fDictListR w cfg s).map Rank.text) 0 cfg.ansi := by
  simp [fDictSuggestion, fDictListR, fixedCands_eq_R]

end Riti
