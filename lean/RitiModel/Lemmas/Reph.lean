/-
Lemmas/Reph — `insert_old_style_reph` and `is_reph_moveable` (src/fixed/method.rs), for Props/C13.  The
right-to-left scan `rephScan` is followed one code point at a time.  On a text that ends in a conjunct, an
optional vowel and an optional chandrabindu, before which the scan stops (`stopsAt`: the start of the text, or
a code point it does not walk over), it counts exactly that syllable, so the reph goes in front of it
(`insertOldStyleReph_shape`); `is_reph_moveable` says yes exactly on the texts that end so
(`isRephMoveable_iff_shape`).
Everything here is on the REVERSED buffer (head = right-most code point).
-/
import RitiModel.Lemmas.Chars
namespace Riti

/-! ### the scan never runs past the buffer -/

/-- the scan only counts up, by at most one per code point it looks at -/
theorem rephScan_bounds (rbuf : Str) (idx : Nat) (k v h ch : Bool) (step : Nat) :
    step ≤ rephScan rbuf idx k v h ch step ∧ rephScan rbuf idx k v h ch step ≤ step + rbuf.length := by
  fun_induction rephScan rbuf idx k v h ch step <;> simp only [List.length_cons, List.length_nil] <;> omega

theorem le_rephScan (rbuf : Str) : ∀ idx k v h ch step,
    step ≤ rephScan rbuf idx k v h ch step :=
  fun idx k v h ch step => (rephScan_bounds rbuf idx k v h ch step).1

/-! ### the syllable grammar (shape predicates are palindromic, so they serve both orientations) -/

/-- a conjunct: pure consonants joined by hasanta, `c (্ c)*` -/
def isConjunct : Str → Bool
  | [] => false
  | [c] => isPureConsonant c
  | c :: h :: rest => isPureConsonant c && h == cHasanta && isConjunct rest

/-- zero or one vowel (independent vowel or vowel sign) -/
def optVowel : Str → Bool
  | [] => true
  | [v] => isVowel v
  | _ => false

/-- zero or one chandrabindu -/
def optChandra : Str → Bool
  | [] => true
  | [c] => c == cChandra
  | _ => false

theorem isConjunct_snoc {cj : Str} {h c : Char} (hh : h = cHasanta) (hc : isPureConsonant c = true) :
    isConjunct cj = true → isConjunct (cj ++ [h, c]) = true := by
  induction cj using isConjunct.induct with
  | case1 => simp [isConjunct]
  | case2 a => intro ha; simp [isConjunct, hh, hc, show isPureConsonant a = true from ha]
  | case3 a b rest ih =>
    intro hab
    simp only [isConjunct, Bool.and_eq_true] at hab
    simp only [List.cons_append, isConjunct, Bool.and_eq_true]
    exact ⟨hab.1, ih hab.2⟩

theorem isConjunct_reverse {cj : Str} : isConjunct cj = true → isConjunct cj.reverse = true := by
  induction cj using isConjunct.induct with
  | case1 => simp [isConjunct]
  | case2 a => simp [isConjunct]
  | case3 a b rest ih =>
    intro hab
    simp only [isConjunct, Bool.and_eq_true, beq_iff_eq] at hab
    have : (a :: b :: rest).reverse = rest.reverse ++ [b, a] := by simp
    rw [this]
    exact isConjunct_snoc hab.1.2 hab.1.1 (ih hab.2)

/-- a conjunct starts (and, by `isConjunct_reverse`, ends) with a pure consonant -/
theorem isConjunct_head {cj : Str} (h : isConjunct cj = true) :
    ∃ c cj', cj = c :: cj' ∧ isPureConsonant c = true := by
  cases cj with
  | nil => simp [isConjunct] at h
  | cons c cj' =>
    refine ⟨c, cj', rfl, ?_⟩
    cases cj' with
    | nil => simpa [isConjunct] using h
    | cons b r => simp only [isConjunct, Bool.and_eq_true] at h; exact h.1.1

theorem optVowel_cases {vow : Str} (h : optVowel vow = true) : vow = [] ∨ ∃ v, vow = [v] ∧ isVowel v = true := by
  match vow, h with
  | [], _ => exact .inl rfl
  | [v], h => exact .inr ⟨v, rfl, h⟩

theorem optChandra_cases {chn : Str} (h : optChandra chn = true) : chn = [] ∨ chn = [cChandra] := by
  match chn, h with
  | [], _ => exact .inl rfl
  | [c], h => exact .inr (by rw [eq_of_beq h])

/-- zero or one code point reads the same in both directions -/
theorem optVowel_reverse {vow : Str} (h : optVowel vow = true) : vow.reverse = vow := by
  rcases optVowel_cases h with rfl | ⟨v, rfl, _⟩ <;> rfl

theorem optChandra_reverse {chn : Str} (h : optChandra chn = true) : chn.reverse = chn := by
  rcases optChandra_cases h with rfl | rfl <;> rfl

/-! ### the scan, one code point at a time -/

section
variable {c : Char} {cs : Str} {idx : Nat} {k v h ch : Bool} {step : Nat}

theorem rephScan_consonant (hc : isPureConsonant c = true) (hk : (k && !h) = false) :
    rephScan (c :: cs) idx k v h ch step = rephScan cs (idx + 1) true v false ch (step + 1) := by
  rw [rephScan, if_pos hc, if_neg (Bool.eq_false_iff.mp hk)]

theorem rephScan_hasanta :
    rephScan (cHasanta :: cs) idx k v h ch step = rephScan cs (idx + 1) k v true ch (step + 1) := by
  rw [rephScan, if_neg (Bool.eq_false_iff.mp unclassed_hasanta.cons), if_pos (beq_self_eq_true _)]

/-- the first vowel is counted at the right edge or after a chandrabindu -/
theorem rephScan_vowel (hv : isVowel c = true) (hi : (idx == 0 || ch) = true) :
    rephScan (c :: cs) idx k false h ch step = rephScan cs (idx + 1) k true h ch (step + 1) := by
  rw [rephScan, if_neg (Bool.eq_false_iff.mp (isVowel_not_cons hv)),
    if_neg (Bool.eq_false_iff.mp (isVowel_ne_hasanta hv)), if_pos hv, if_neg Bool.false_ne_true, if_pos hi]

/-- a chandrabindu is counted at the right edge only -/
theorem rephScan_chandra :
    rephScan (cChandra :: cs) 0 k v h ch step = rephScan cs 1 k v h true (step + 1) := by
  rw [rephScan, if_neg (Bool.eq_false_iff.mp unclassed_chandra.cons),
    if_neg (Bool.eq_false_iff.mp chandra_ne_hasanta), if_neg (Bool.eq_false_iff.mp unclassed_chandra.vowel),
    if_pos (beq_self_eq_true _), if_pos (beq_self_eq_true _)]
end

/-! ### what the scan does on a syllable -/

/-- the scan walks over a whole (reversed) conjunct, counting every code point of it, provided it
    has not yet seen a consonant or has just seen a hasanta -/
theorem rephScan_conj (cj : Str) (rest : Str) : isConjunct cj = true →
    ∀ {idx k v h ch step}, (k && !h) = false →
      rephScan (cj ++ rest) idx k v h ch step =
        rephScan rest (idx + cj.length) true v false ch (step + cj.length) := by
  induction cj using isConjunct.induct with
  | case1 => intro h; cases h
  | case2 c => intro hc _ _ _ _ _ _ hk; exact rephScan_consonant hc hk
  | case3 c b cj' ih =>
    intro hc _ _ _ _ _ _ hk
    simp only [isConjunct, Bool.and_eq_true, beq_iff_eq] at hc
    obtain ⟨⟨hc1, rfl⟩, hc2⟩ := hc
    rw [List.cons_append, List.cons_append, rephScan_consonant hc1 hk, rephScan_hasanta, ih hc2 rfl,
      List.length_cons, List.length_cons]
    congr 1 <;> omega

theorem rephScan_optChandra {chn : Str} (hchn : optChandra chn = true) (r : Str) :
    rephScan (chn ++ r) 0 false false false false 0 =
      rephScan r chn.length false false false (!chn.isEmpty) chn.length := by
  rcases optChandra_cases hchn with rfl | rfl
  · rfl
  · exact rephScan_chandra

theorem rephScan_optVowel {vow : Str} (hvow : optVowel vow = true) (r : Str) {idx : Nat} {ch : Bool} {step : Nat}
    (hi : (idx == 0 || ch) = true) :
    rephScan (vow ++ r) idx false false false ch step =
      rephScan r (idx + vow.length) false (!vow.isEmpty) false ch (step + vow.length) := by
  rcases optVowel_cases hvow with rfl | ⟨c, rfl, hc⟩
  · rfl
  · exact rephScan_vowel hc hi

/-- the code point to the left of the syllable at which the scan stops without counting it:
    `v` = a vowel has been counted, `ch` = a chandrabindu has been counted -/
def stopsAt (v ch : Bool) (rest : Str) : Bool :=
  match rest.head? with
  | none => true
  | some d => isPureConsonant d || d == cChandra || (isVowel d && (v || !ch))

/-- after a conjunct (consonant seen, no hasanta open, not at the right edge) the scan stops at a `stopsAt`
    code point without counting it -/
theorem rephScan_stop (rest : Str) (idx : Nat) (hidx : idx ≠ 0) (v ch : Bool) (step : Nat)
    (h : stopsAt v ch rest = true) : rephScan rest idx true v false ch step = step := by
  cases rest with
  | nil => rfl
  | cons d ds =>
    have hidx' : (idx == 0) = false := by simpa using hidx
    simp only [stopsAt, List.head?_cons, Bool.or_eq_true, Bool.and_eq_true] at h
    rcases h with (hd | hd) | ⟨hd, hv⟩
    · -- a second consonant with no hasanta between
      rw [rephScan, if_pos hd]; rfl
    · -- a chandrabindu that is not at the right edge
      rw [eq_of_beq hd, rephScan, if_neg (Bool.eq_false_iff.mp unclassed_chandra.cons),
        if_neg (Bool.eq_false_iff.mp chandra_ne_hasanta), if_neg (Bool.eq_false_iff.mp unclassed_chandra.vowel),
        if_pos (beq_self_eq_true _), if_neg (Bool.eq_false_iff.mp hidx')]
    · -- a second vowel, or a first one that is neither at the right edge nor under a chandrabindu
      rw [rephScan, if_neg (Bool.eq_false_iff.mp (isVowel_not_cons hd)),
        if_neg (Bool.eq_false_iff.mp (isVowel_ne_hasanta hd)), if_pos hd]
      cases v with
      | true => rfl
      | false => rw [if_neg Bool.false_ne_true, if_neg]; simpa [hidx'] using hv

/-- on a buffer that ends (reversed: starts) with optional chandrabindu, optional vowel, conjunct,
    and then a code point at which the scan stops, the scan counts exactly the syllable -/
theorem rephScan_shape {chn vow cj rest : Str} (hchn : optChandra chn = true) (hvow : optVowel vow = true)
    (hcj : isConjunct cj = true) (hstop : stopsAt (!vow.isEmpty) (!chn.isEmpty) rest = true) :
    rephScan (chn ++ vow ++ cj ++ rest) 0 false false false false 0 =
      chn.length + vow.length + cj.length := by
  have hlen : 0 < cj.length := by
    obtain ⟨c, cj', rfl, _⟩ := isConjunct_head hcj; simp
  have hi : (chn.length == 0 || !chn.isEmpty) = true := by cases chn <;> rfl
  rw [List.append_assoc, List.append_assoc, rephScan_optChandra hchn, rephScan_optVowel hvow _ hi,
    rephScan_conj cj rest hcj rfl]
  exact rephScan_stop rest _ (by omega) _ _ _ hstop

/-! ### `is_reph_moveable` -/

/-- drop one trailing (reversed: leading) chandrabindu -/
def dropChandra : Str → Str
  | [] => []
  | c :: rest => if c == cChandra then rest else c :: rest

/-- `is_reph_moveable` drops one trailing chandrabindu and looks at the last two code points -/
theorem isRephMoveable_eq (rbuf : Str) : isRephMoveable rbuf =
    (isPureConsonant ((dropChandra rbuf).headD '\x00') ||
      (isVowel ((dropChandra rbuf).headD '\x00') && isPureConsonant (((dropChandra rbuf).drop 1).headD '\x00'))) := by
  cases rbuf with
  | nil => rfl
  | cons a r => by_cases h : (a == cChandra) = true <;> simp [isRephMoveable, dropChandra, h]

theorem dropChandra_append {chn : Str} (hchn : optChandra chn = true) {a : Char} (x : Str)
    (ha : (a == cChandra) = false) : dropChandra (chn ++ a :: x) = a :: x := by
  rcases optChandra_cases hchn with rfl | rfl <;> simp [dropChandra, ha]

theorem isRephMoveable_shape {chn vow cj : Str} (rest : Str) (hchn : optChandra chn = true) (hvow : optVowel vow = true)
    (hcj : isConjunct cj = true) : isRephMoveable (chn ++ vow ++ cj ++ rest) = true := by
  obtain ⟨k, cj', rfl, hk⟩ := isConjunct_head hcj
  rcases optVowel_cases hvow with rfl | ⟨v, rfl, hv⟩
  · rw [List.append_nil, List.append_assoc, List.cons_append, isRephMoveable_eq,
      dropChandra_append hchn _ (consFacts hk).chandra]
    simp [hk]
  · rw [List.append_assoc, List.append_assoc, List.cons_append, isRephMoveable_eq,
      dropChandra_append hchn _ (isVowel_ne_chandra hv)]
    simp [hv, hk]

theorem isRephMoveable_iff (rbuf : Str) : isRephMoveable rbuf = true ↔
    (∃ c rest, dropChandra rbuf = c :: rest ∧ isPureConsonant c = true) ∨
    (∃ v c rest, dropChandra rbuf = v :: c :: rest ∧ isVowel v = true ∧ isPureConsonant c = true) := by
  rw [isRephMoveable_eq]
  match dropChandra rbuf with
  | [] => simp [unclassed_nul.cons, unclassed_nul.vowel]
  | [a] => simp [unclassed_nul.cons]
  | a :: b :: r' => simp [and_assoc]

/-! ### where the reph goes -/

/-- on a buffer that ends in such a syllable, with a code point before it at which the scan stops, the reph goes
    in between the syllable and what precedes it -/
theorem insertOldStyleReph_shape {chn vow cj rest : Str} (hchn : optChandra chn = true) (hvow : optVowel vow = true)
    (hcj : isConjunct cj = true) (hstop : stopsAt (!vow.isEmpty) (!chn.isEmpty) rest = true) :
    insertOldStyleReph (chn ++ vow ++ cj ++ rest) = chn ++ vow ++ cj ++ [cHasanta, cR] ++ rest := by
  have hl : (chn ++ vow ++ cj).length = chn.length + vow.length + cj.length := by
    simp only [List.length_append]
  simp only [insertOldStyleReph, isRephMoveable_shape rest hchn hvow hcj, if_true, rephScan_shape hchn hvow hcj hstop]
  rw [List.take_left' hl, List.drop_left' hl]

/-! ### every moveable buffer has the syllable shape, with a maximal conjunct -/

/-- (reversed) the conjunct cannot be extended to the left: what precedes it is not
    "pure consonant, hasanta" -/
def rMaximal : Str → Bool
  | h :: k :: _ => !(h == cHasanta && isPureConsonant k)
  | _ => true

theorem conj_extend (c : Char) (rest : Str) (hc : isPureConsonant c = true) :
    ∃ cj rest', c :: rest = cj ++ rest' ∧ isConjunct cj = true ∧ rMaximal rest' = true := by
  have one : isConjunct [c] = true := hc
  match rest with
  | [] => exact ⟨[c], [], rfl, one, rfl⟩
  | [x] => exact ⟨[c], [x], rfl, one, rfl⟩
  | h :: k :: r =>
    by_cases hm : (h == cHasanta && isPureConsonant k) = true
    · -- what precedes is hasanta + consonant: the conjunct goes on
      obtain ⟨hh, hk⟩ := Bool.and_eq_true _ _ ▸ hm
      obtain ⟨cj, rest', he, hcj, hmx⟩ := conj_extend k r hk
      exact ⟨c :: h :: cj, rest', by rw [List.cons_append, List.cons_append, ← he], by simp [isConjunct, hc, hh, hcj], hmx⟩
    · exact ⟨[c], h :: k :: r, rfl, one, by simp only [rMaximal, Bool.eq_false_iff.mpr hm, Bool.not_false]⟩

theorem dropChandra_spec (rbuf : Str) : ∃ chn, optChandra chn = true ∧ rbuf = chn ++ dropChandra rbuf := by
  cases rbuf with
  | nil => exact ⟨[], rfl, rfl⟩
  | cons a r =>
    by_cases h : (a == cChandra) = true
    · exact ⟨[a], by simpa [optChandra] using h, by simp [dropChandra, h]⟩
    · exact ⟨[], rfl, by simp [dropChandra, h]⟩

/-- `is_reph_moveable` says yes exactly on the buffers that end (reversed: start) with optional
    chandrabindu, optional vowel, and a conjunct — which can then be taken maximal -/
theorem isRephMoveable_iff_shape (rbuf : Str) : isRephMoveable rbuf = true ↔
    ∃ chn vow cj rest, rbuf = chn ++ vow ++ cj ++ rest ∧ optChandra chn = true ∧ optVowel vow = true ∧
      isConjunct cj = true ∧ rMaximal rest = true := by
  constructor
  · intro h
    obtain ⟨chn, hchn, hr⟩ := dropChandra_spec rbuf
    rcases (isRephMoveable_iff rbuf).mp h with ⟨c, rest, hd, hc⟩ | ⟨v, c, rest, hd, hv, hc⟩
    · obtain ⟨cj, rest', he, hcj, hmx⟩ := conj_extend c rest hc
      exact ⟨chn, [], cj, rest', by rw [hr, hd, he]; simp, hchn, rfl, hcj, hmx⟩
    · obtain ⟨cj, rest', he, hcj, hmx⟩ := conj_extend c rest hc
      exact ⟨chn, [v], cj, rest', by rw [hr, hd, he]; simp, hchn, by simpa [optVowel] using hv, hcj, hmx⟩
  · rintro ⟨chn, vow, cj, rest, rfl, hchn, hvow, hcj, _⟩
    exact isRephMoveable_shape rest hchn hvow hcj

end Riti
