/-
Lemmas/JsonValueTotal — totality facts about the JSON value reader of Model/JsonValue.

One invariant, `Sound`, says everything that is needed about an answer of a reader that runs on fuel:
what it hands back is a proper suffix of what it was given (`Rest`); it answers `fuel` only when the
fuel does not exceed the length of the input; it answers `unsupportedNumber` only when a number
token of the input is unsupported; and any other answer is also the answer with one more unit of
fuel.  `sound_all` proves it for the three mutual readers in ONE induction on the fuel, following the
dispatch of `pValue` on the first character; the statements for each reader are read off it:

* remainders (`pValue_rem` …); `parseValue` supplies fuel = input length + 1, so the outcome
  `ReadErr.fuel` is impossible (`parseValue_ne_fuel`, `layoutOfFile_ne_fuel`); more fuel never
  changes an outcome other than `fuel` (`pValue_fuel_mono`, `pValue_fuel_indep`);
* where an error of the file readers comes from, one statement per stage (`parseValue_error`,
  `valueOfFile_error`, `layoutOfFile_error`): the statements about `fuel` and `unsupportedNumber`
  for the files follow the stages down to the value reader;
* `unsupportedNumber` (the one thing not modelled) only comes from a number token with more than
  200 integer digits or more than 2 exponent digits, so a document in which no three decimal
  digits follow each other is never answered that way (`parseValue_supported`).
  NB the textual condition also excludes harmless documents, e.g. one with the escape `\u0986`.
-/
import RitiModel.Model.JsonValue
import RitiModel.Lemmas.Json
namespace Riti.JsonValue
open Riti.Json (Str skipWs parseBody parseString utf8Decode push_eq_some)

/-! ### remainders of the basic readers -/

/-- `r` is what is left of `t` once at least one character has been read -/
def Rest (r t : List Char) : Prop := r.length < t.length ∧ r <:+ t

theorem Rest.trans_suffix {r u t : List Char} (h : Rest r u) (hu : u <:+ t) : Rest r t :=
  ⟨Nat.lt_of_lt_of_le h.1 hu.length_le, h.2.trans hu⟩

theorem Rest.suffix_trans {r u t : List Char} (h : r <:+ u) (hu : Rest u t) : Rest r t :=
  ⟨Nat.lt_of_le_of_lt h.length_le hu.1, h.trans hu.2⟩

theorem Rest.trans {r u t : List Char} (h : Rest r u) (hu : Rest u t) : Rest r t := h.trans_suffix hu.2

theorem Rest.tail {c : Char} {r t : List Char} (h : c :: r <:+ t) : Rest r t :=
  ⟨Nat.lt_of_lt_of_le (Nat.lt_succ_self _) h.length_le, (List.suffix_cons c r).trans h⟩

theorem skipWs_suffix (t : List Char) : skipWs t <:+ t := by
  induction t with
  | nil => exact List.suffix_refl _
  | cons c r ih =>
    rw [skipWs]; split
    · exact ih.trans (List.suffix_cons c r)
    · exact List.suffix_refl _

theorem skipWs_cons_rest {t : List Char} {c : Char} {r : List Char} (h : skipWs t = c :: r) : Rest r t :=
  .tail (h ▸ skipWs_suffix t)

theorem parseBody_rest {k : Nat} {t : List Char} {s : Str} {r : List Char}
    (h : parseBody k t = some (s, r)) : Rest r t := by
  -- along the definition: the reader fails (1, 4, 6), passes over a character (2), closes the string (3), pushes a character (5, 7)
  fun_induction parseBody k t generalizing s with
  | case1 | case4 | case6 => cases h
  | case2 _ _ _ ih => exact (ih h).trans_suffix (List.suffix_cons _ _)
  | case3 => cases h; exact .tail (List.suffix_refl _)
  | case5 _ _ _ _ _ ih | case7 _ _ _ _ _ ih =>
    obtain ⟨s', h', -⟩ := push_eq_some h
    exact (ih h').trans_suffix (List.suffix_cons _ _)

theorem skipWs_length_le (t : List Char) : (skipWs t).length ≤ t.length :=
  (skipWs_suffix t).length_le

theorem parseBody_length (k : Nat) (t : List Char) (s : Str) (r : List Char)
    (h : parseBody k t = some (s, r)) : r.length < t.length := (parseBody_rest h).1

theorem parseBody_suffix (k : Nat) (t : List Char) (s : Str) (r : List Char)
    (h : parseBody k t = some (s, r)) : r <:+ t := (parseBody_rest h).2

theorem parseString_rest {t : List Char} {k : Str} {r : List Char} : parseString t = some (k, r) → Rest r t := by
  fun_cases parseString t with
  | case2 r0 hs => exact fun h => (parseBody_rest h).trans (skipWs_cons_rest hs)
  | _ => nofun

/-! ### numbers -/

theorem digits_append (t : List Char) : (digits t).1 ++ (digits t).2 = t := by
  induction t with
  | nil => rfl
  | cons c r ih =>
    rw [digits]; split
    · exact congrArg (c :: ·) ih
    · rfl

theorem digits_suffix (t : List Char) : (digits t).2 <:+ t := ⟨_, digits_append t⟩

/-- an answer of a part of the number reader: a failure is a syntax error, a success satisfies `P` -/
def Lex {β : Type} (P : β → Prop) (y : R β) : Prop := (∀ b, y = .ok b → P b) ∧ ∀ e, y = .error e → e = .notJson

theorem Lex.ok {β : Type} {P : β → Prop} {b : β} (h : P b) : Lex P (.ok b) := ⟨fun _ e => Except.ok.inj e ▸ h, nofun⟩

theorem Lex.error {β : Type} {P : β → Prop} : Lex P (.error .notJson) := ⟨nofun, fun _ e => (Except.error.inj e).symm⟩

/-- exponent part: the rest is a suffix, and the digit count is that of the leading digits of some suffix -/
theorem lexExp_lex (t : List Char) :
    Lex (fun p => p.2.2 <:+ t ∧ ∃ u, u <:+ t ∧ p.2.1 ≤ (digits u).1.length) (lexExp t) := by
  fun_cases lexExp t with
  | case1 => exact .ok ⟨List.suffix_refl _, [], List.suffix_refl _, Nat.zero_le _⟩
  | case4 e _ s r1 =>
    have h1 : r1 <:+ e :: s :: r1 := (List.suffix_cons s r1).trans (List.suffix_cons e _)
    exact .ok ⟨(digits_suffix r1).trans h1, r1, h1, Nat.le_refl _⟩
  | case6 e => exact .ok ⟨(digits_suffix _).trans (List.suffix_cons e _), _, List.suffix_cons e _, Nat.le_refl _⟩
  | case7 => exact .ok ⟨List.suffix_refl _, [], List.nil_suffix, Nat.zero_le _⟩
  | _ => exact .error

theorem lexFracExp_lex (t : List Char) :
    Lex (fun p => p.2.2 <:+ t ∧ ∃ u, u <:+ t ∧ p.2.1 ≤ (digits u).1.length) (lexFracExp t) := by
  fun_cases lexFracExp t with
  | case1 => exact .ok ⟨List.suffix_refl _, [], List.suffix_refl _, Nat.zero_le _⟩
  | case2 => exact .error
  | case3 r0 d _ e hx => cases (lexExp_lex _).2 e hx; exact .error
  | case4 r0 d _ ex n rest hx =>
    have h0 : (digits r0).2 <:+ '.' :: r0 := (digits_suffix r0).trans (List.suffix_cons _ r0)
    obtain ⟨h1, u, h2, h3⟩ := (lexExp_lex _).1 _ hx
    exact .ok ⟨h1.trans h0, u, h2.trans h0, h3⟩
  | case5 => exact lexExp_lex _

/-- integer part: the rest is a proper suffix; its text is one character or the leading digits of the input -/
theorem lexInt_lex (t : List Char) :
    Lex (fun p => p.2.length < t.length ∧ p.2 <:+ t ∧ (p.1.length ≤ 1 ∨ p.1.length = (digits t).1.length)) (lexInt t) := by
  fun_cases lexInt t with
  | case2 => exact .ok ⟨Nat.zero_lt_one, List.nil_suffix, .inl (Nat.le_refl _)⟩
  | case4 => exact .ok ⟨Nat.lt_succ_self _, List.suffix_cons _ _, .inl (Nat.le_refl _)⟩
  | case5 c r0 _ hd =>
    refine .ok ⟨?_, (digits_suffix r0).trans (List.suffix_cons c r0), .inr (by rw [digits, if_pos hd])⟩
    have hl := congrArg List.length (digits_append r0)
    simp only [List.length_append] at hl
    simp only [List.length_cons]; omega
  | _ => exact .error

/-- a number token once its sign is split off (auxiliary: `lexNumber` with the first `match` resolved) -/
def lexNumberFrom (sign t1 : List Char) : R (List Char × List Char) :=
  match lexInt t1 with
  | .error e => .error e
  | .ok (int, r) =>
    match lexFracExp r with
    | .error e => .error e
    | .ok (fe, nexp, rest) =>
      if int.length ≤ maxIntDigits ∧ nexp ≤ maxExpDigits then .ok (sign ++ int ++ fe, rest)
      else .error .unsupportedNumber

theorem lexNumber_cons (c : Char) (r : List Char) :
    lexNumber (c :: r) = if c = '-' then lexNumberFrom ['-'] r else lexNumberFrom [] (c :: r) := by
  by_cases hc : c = '-'
  · simp only [lexNumber, if_pos hc]; rfl
  · simp only [lexNumber, if_neg hc]; rfl

theorem lexNumber_eq (t : List Char) : ∃ sign t1, t1 <:+ t ∧ lexNumber t = lexNumberFrom sign t1 := by
  cases t with
  | nil => exact ⟨[], [], List.suffix_refl _, rfl⟩
  | cons c r =>
    rw [lexNumber_cons]; split
    · exact ⟨_, r, List.suffix_cons c r, rfl⟩
    · exact ⟨_, _, List.suffix_refl _, rfl⟩

theorem lexNumber_sound (t : List Char) :
    (∀ lx r, lexNumber t = .ok (lx, r) → Rest r t) ∧
    (∀ e, lexNumber t = .error e → e = .notJson ∨ e = .unsupportedNumber ∧ ∃ u, u <:+ t ∧ 2 < (digits u).1.length) := by
  obtain ⟨sign, t1, ht1, he⟩ := lexNumber_eq t
  rw [he]
  fun_cases lexNumberFrom sign t1 with
  | case1 e hi => exact ⟨nofun, fun _ h => .inl (Except.error.inj h ▸ (lexInt_lex _).2 _ hi)⟩
  | case2 int r0 hi e hf => exact ⟨nofun, fun _ h => .inl (Except.error.inj h ▸ (lexFracExp_lex _).2 _ hf)⟩
  | case3 int r0 hi fe nexp rest hf hn =>
    obtain ⟨a1, a2, -⟩ := (lexInt_lex _).1 _ hi
    obtain ⟨b1, -⟩ := (lexFracExp_lex _).1 _ hf
    exact ⟨fun lx r h => by cases h; exact .trans_suffix ⟨Nat.lt_of_le_of_lt b1.length_le a1, b1.trans a2⟩ ht1, nofun⟩
  | case4 int r0 hi fe nexp rest hf hn =>
    obtain ⟨-, a2, a3⟩ := (lexInt_lex _).1 _ hi
    obtain ⟨-, u, b2, b3⟩ := (lexFracExp_lex _).1 _ hf
    refine ⟨nofun, fun e h => .inr ⟨(Except.error.inj h).symm, ?_⟩⟩
    simp only [maxIntDigits, maxExpDigits] at hn
    dsimp only at a3 b3
    -- too many exponent digits (they are leading digits of `u`), or too many integer digits (the leading digits of `t1`)
    by_cases h200 : int.length ≤ 200
    · exact ⟨u, (b2.trans a2).trans ht1, by omega⟩
    · exact ⟨t1, ht1, by omega⟩

theorem lexNumber_unsupported {s : List Char} (h : lexNumber s = .error .unsupportedNumber) :
    ∃ u, u <:+ s ∧ 2 < (digits u).1.length :=
  ((lexNumber_sound s).2 _ h).elim nofun (·.2)

/-! ### the invariant of a reader that runs on fuel -/

/-- What a reader with fuel `f` answers on input `t` (`x`), and what it answers with fuel `f + 1` (`x'`) -/
structure Sound {α : Type} (f : Nat) (t : List Char) (x x' : R (α × List Char)) : Prop where
  rest : ∀ a r, x = .ok (a, r) → Rest r t
  fuel : x = .error .fuel → f ≤ t.length
  unsupported : x = .error .unsupportedNumber → ∃ s, s <:+ t ∧ lexNumber s = .error .unsupportedNumber
  stable : x ≠ .error .fuel → x' = x

theorem Sound.ok {α : Type} {f : Nat} {t r : List Char} {a : α} (h : Rest r t) : Sound f t (.ok (a, r)) (.ok (a, r)) :=
  ⟨fun _ _ e => (by cases e; exact h), nofun, nofun, fun _ => rfl⟩

theorem Sound.error {α : Type} {f : Nat} {t : List Char} {e : ReadErr} (h1 : e ≠ .fuel := by decide)
    (h2 : e ≠ .unsupportedNumber := by decide) : Sound (α := α) f t (.error e) (.error e) :=
  ⟨nofun, fun e => absurd (Except.error.inj e) h1, fun e => absurd (Except.error.inj e) h2, fun _ => rfl⟩

theorem Sound.outOfFuel {α : Type} {f : Nat} {t : List Char} {x' : R (α × List Char)} (h : f ≤ t.length) :
    Sound f t (.error .fuel) x' :=
  ⟨nofun, fun _ => h, nofun, fun h => absurd rfl h⟩

/-- sequencing: `y` (with one more unit of fuel: `y'`) passes on the error of a reader run on a later part `u` of
    the input, or goes on from what that reader has read and left -/
theorem Sound.bind {α β : Type} {f f' : Nat} {t u : List Char} {x x' : R (α × List Char)} {y y' : R (β × List Char)}
    (hu : Rest u t) (hf : f' ≤ f + 1) (h : Sound f u x x')
    (hk : ∀ a r, x = .ok (a, r) → x' = .ok (a, r) → Rest r u → Sound f' t y y')
    (he : ∀ e, x = .error e → y = .error e := by intro e h; rw [h])
    (he' : ∀ e, x' = .error e → y' = .error e := by intro e h; rw [h]) : Sound f' t y y' := by
  cases hx : x with
  | ok p => exact hk p.1 p.2 hx (hx ▸ h.stable (hx ▸ nofun)) (h.rest _ _ hx)
  | error e =>
    rw [he e hx]
    by_cases hfu : e = .fuel
    · subst hfu; exact .outOfFuel (by have := h.fuel hx; have := hu.1; omega)
    · have hx' := h.stable (hx ▸ fun h => hfu (Except.error.inj h))
      rw [he' e (hx' ▸ hx)]
      refine ⟨nofun, fun h => absurd (Except.error.inj h) hfu, fun hun => ?_, fun _ => rfl⟩
      cases hun
      obtain ⟨s, hs, hl⟩ := h.unsupported hx
      exact ⟨s, hs.trans hu.2, hl⟩

theorem Sound.ite {α : Type} {f : Nat} {t : List Char} {c : Prop} [Decidable c] {x x' y y' : R (α × List Char)}
    (h1 : Sound f t x x') (h2 : Sound f t y y') : Sound f t (if c then x else y) (if c then x' else y') := by
  split
  · exact h1
  · exact h2

/-- the readers skip whitespace and dispatch on the character they find -/
theorem Sound.skip {α : Type} {f : Nat} {t u : List Char} {F F' : Char → List Char → R (α × List Char)}
    (h : ∀ c r, skipWs u = c :: r → Sound f t (F c r) (F' c r)) :
    Sound f t (match skipWs u with | [] => .error .notJson | c :: r => F c r)
      (match skipWs u with | [] => .error .notJson | c :: r => F' c r) := by
  cases hs : skipWs u with
  | nil => exact .error
  | cons c r => exact h c r hs

/-! ### the three mutual readers -/

theorem Sound.member {f : Nat} {t : List Char} {pv pv' : List Char → R (JVal × List Char)}
    (h : ∀ u, Sound f u (pv u) (pv' u)) : Sound f t (pMemberWith pv t) (pMemberWith pv' t) := by
  unfold pMemberWith
  cases hk : parseString t with
  | none => exact .error
  | some p =>
    obtain ⟨k, r⟩ := p
    refine .skip fun c r1 hs => .ite ?_ .error
    have hr1 : Rest r1 t := (skipWs_cons_rest hs).trans (parseString_rest hk)
    refine .bind hr1 (Nat.le_succ _) (h r1) fun v r2 h h' h2 => ?_
    simp only [h, h']; exact .ok (h2.trans hr1)

theorem sound_all (f : Nat) :
    (∀ d t, Sound f t (pValue f d t) (pValue (f + 1) d t)) ∧
    (∀ d t, Sound f t (pElems f d t) (pElems (f + 1) d t)) ∧
    (∀ d t, Sound f t (pMembers f d t) (pMembers (f + 1) d t)) := by
  induction f with
  | zero => exact ⟨fun d t => .outOfFuel (Nat.zero_le _), fun d t => .outOfFuel (Nat.zero_le _), fun d t => .outOfFuel (Nat.zero_le _)⟩
  | succ f ih =>
    obtain ⟨ihv, ihe, ihm⟩ := ih
    have ihw : ∀ d t, Sound f t (pMemberWith (pValue f d) t) (pMemberWith (pValue (f + 1) d) t) :=
      fun d t => .member (ihv d)
    refine ⟨fun d t => ?_, fun d t => ?_, fun d t => ?_⟩
    · rw [pValue.eq_2 d t f, pValue.eq_2 d t (f + 1)]
      refine .skip fun c r hs => ?_
      have hr := skipWs_cons_rest hs
      -- the dispatch on the first character: a string, an array, an object, the three keywords, a number
      refine .ite ?_ (.ite (.ite .error (.skip fun c1 r1 hs1 => ?_)) (.ite (.ite .error (.skip fun c1 r1 hs1 => ?_))
        (.ite ?_ (.ite ?_ (.ite ?_ (.ite ?_ .error))))))
      · cases hb : parseBody 0 r with
        | none => exact .error
        | some p => exact .ok ((parseBody_rest hb).trans hr)
      · have hu : Rest (c1 :: r1) t := .suffix_trans (hs1 ▸ skipWs_suffix r) hr
        refine .ite (.ok (.trans (.tail (List.suffix_refl _)) hu)) ?_
        refine .bind hu (Nat.le_refl _) (ihv _ _) fun v r2 h h' h2 => ?_
        simp only [h, h']
        refine .bind (h2.trans hu) (Nat.le_refl _) (ihe _ r2) fun vs r3 h h' h3 => ?_
        simp only [h, h']; exact .ok ((h3.trans h2).trans hu)
      · have hu : Rest (c1 :: r1) t := .suffix_trans (hs1 ▸ skipWs_suffix r) hr
        refine .ite (.ok (.trans (.tail (List.suffix_refl _)) hu)) ?_
        refine .bind hu (Nat.le_refl _) (ihw _ _) fun kv r2 h h' h2 => ?_
        simp only [h, h']
        refine .bind (h2.trans hu) (Nat.le_refl _) (ihm _ r2) fun ms r3 h h' h3 => ?_
        simp only [h, h']; exact .ok ((h3.trans h2).trans hu)
      · split
        · exact .ok (.suffix_trans ⟨['u', 'l', 'l'], rfl⟩ hr)
        · exact .error
      · split
        · exact .ok (.suffix_trans ⟨['r', 'u', 'e'], rfl⟩ hr)
        · exact .error
      · split
        · exact .ok (.suffix_trans ⟨['a', 'l', 's', 'e'], rfl⟩ hr)
        · exact .error
      · obtain ⟨hok, herr⟩ := lexNumber_sound (c :: r)
        cases hl : lexNumber (c :: r) with
        | error e =>
          rcases herr e hl with rfl | ⟨rfl, -⟩
          · exact .error
          · exact ⟨nofun, nofun, fun _ => ⟨_, hs ▸ skipWs_suffix t, hl⟩, fun _ => rfl⟩
        | ok p => exact .ok ((hok _ _ hl).trans_suffix (hs ▸ skipWs_suffix t))
    · rw [pElems.eq_2 d t f, pElems.eq_2 d t (f + 1)]
      refine .skip fun c r hs => ?_
      have hr := skipWs_cons_rest hs
      refine .ite (.ok hr) (.ite ?_ .error)
      refine .bind hr (Nat.le_refl _) (ihv _ _) fun v r1 h h' h1 => ?_
      simp only [h, h']
      refine .bind (h1.trans hr) (Nat.le_refl _) (ihe _ r1) fun vs r2 h h' h2 => ?_
      simp only [h, h']; exact .ok ((h2.trans h1).trans hr)
    · rw [pMembers.eq_2 d t f, pMembers.eq_2 d t (f + 1)]
      refine .skip fun c r hs => ?_
      have hr := skipWs_cons_rest hs
      refine .ite (.ok hr) (.ite ?_ .error)
      refine .bind hr (Nat.le_refl _) (ihw _ _) fun kv r1 h h' h1 => ?_
      simp only [h, h']
      refine .bind (h1.trans hr) (Nat.le_refl _) (ihm _ r1) fun ms r2 h h' h2 => ?_
      simp only [h, h']; exact .ok ((h2.trans h1).trans hr)

/-! ### the statements for each reader -/

theorem pValue_rem (f d : Nat) (t : List Char) (v : JVal) (r : List Char)
    (h : pValue f d t = .ok (v, r)) : r.length < t.length ∧ r <:+ t := ((sound_all f).1 d t).rest v r h

theorem pElems_rem (f d : Nat) (t : List Char) (v : List JVal) (r : List Char)
    (h : pElems f d t = .ok (v, r)) : r.length < t.length ∧ r <:+ t := ((sound_all f).2.1 d t).rest v r h

theorem pMembers_rem (f d : Nat) (t : List Char) (v : List (Str × JVal)) (r : List Char)
    (h : pMembers f d t = .ok (v, r)) : r.length < t.length ∧ r <:+ t := ((sound_all f).2.2 d t).rest v r h

theorem pValue_ne_fuel (f d : Nat) (t : List Char) (h : t.length < f) : pValue f d t ≠ .error .fuel :=
  fun he => Nat.not_le_of_lt h (((sound_all f).1 d t).fuel he)

theorem pElems_ne_fuel (f d : Nat) (t : List Char) (h : t.length < f) : pElems f d t ≠ .error .fuel :=
  fun he => Nat.not_le_of_lt h (((sound_all f).2.1 d t).fuel he)

theorem pMembers_ne_fuel (f d : Nat) (t : List Char) (h : t.length < f) : pMembers f d t ≠ .error .fuel :=
  fun he => Nat.not_le_of_lt h (((sound_all f).2.2 d t).fuel he)

/-! ### where an error of the file readers comes from: one statement per stage -/

theorem parseValue_error {t : List Char} {e : ReadErr} : parseValue t = .error e →
    e = .notJson ∨ pValue (t.length + 1) depthLimit t = .error e := by
  fun_cases parseValue t with
  | case1 e' he => exact fun h => .inr (Except.error.inj h ▸ he)
  | case2 => nofun
  | case3 => exact fun h => .inl (Except.error.inj h).symm

theorem valueOfFile_error {b : List UInt8} {e : ReadErr} : valueOfFile b = .error e →
    e = .notUtf8 ∨ ∃ t, utf8Decode b = some t ∧ parseValue t = .error e := by
  fun_cases valueOfFile b with
  | case1 => exact fun h => .inl (Except.error.inj h).symm
  | case2 t ht => exact fun h => .inr ⟨t, ht, h⟩

theorem layoutOfFile_error {b : List UInt8} {e : ReadErr} : layoutOfFile b = .error e →
    e = .wrongShape ∨ valueOfFile b = .error e := by
  fun_cases layoutOfFile b with
  | case1 e' he => exact fun h => .inr (Except.error.inj h ▸ he)
  | case2 => exact fun h => .inl (Except.error.inj h).symm
  | case3 => nofun

/-! ### no reader of a document or a file runs out of fuel -/

theorem typedErr_eq_fuel {e : ReadErr} (h : typedErr e = .fuel) : e = .fuel := by
  cases e <;> simp [typedErr] at h ⊢

theorem parseValue_ne_fuel (t : List Char) : parseValue t ≠ .error .fuel :=
  fun h => (parseValue_error h).elim nofun (pValue_ne_fuel _ _ t (Nat.lt_succ_self _))

theorem valueOfFile_ne_fuel (b : List UInt8) : valueOfFile b ≠ .error .fuel :=
  fun h => (valueOfFile_error h).elim nofun fun ⟨t, _, ht⟩ => parseValue_ne_fuel t ht

theorem layoutOfFile_ne_fuel (b : List UInt8) : layoutOfFile b ≠ .error .fuel :=
  fun h => (layoutOfFile_error h).elim nofun (valueOfFile_ne_fuel b)

theorem stringMapOfFile_ne_fuel (b : List UInt8) : stringMapOfFile b ≠ .error .fuel := by
  fun_cases stringMapOfFile b with
  | case1 e he => exact fun h => valueOfFile_ne_fuel b (typedErr_eq_fuel (Except.error.inj h) ▸ he)
  | _ => nofun

theorem tableOfFile_ne_fuel (b : List UInt8) : tableOfFile b ≠ .error .fuel := by
  fun_cases tableOfFile b with
  | case1 e he => exact fun h => valueOfFile_ne_fuel b (typedErr_eq_fuel (Except.error.inj h) ▸ he)
  | _ => nofun

/-! ### fuel monotonicity -/

theorem pValue_fuel_mono (f d : Nat) (t : List Char) (x : JVal × List Char) (h : pValue f d t = .ok x) :
    pValue (f + 1) d t = .ok x := h ▸ ((sound_all f).1 d t).stable (h ▸ nofun)

theorem pElems_fuel_mono (f d : Nat) (t : List Char) (x : List JVal × List Char) (h : pElems f d t = .ok x) :
    pElems (f + 1) d t = .ok x := h ▸ ((sound_all f).2.1 d t).stable (h ▸ nofun)

theorem pMembers_fuel_mono (f d : Nat) (t : List Char) (x : List (Str × JVal) × List Char)
    (h : pMembers f d t = .ok x) : pMembers (f + 1) d t = .ok x := h ▸ ((sound_all f).2.2 d t).stable (h ▸ nofun)

theorem pValue_fuel_le {f f' d : Nat} {t : List Char} (hle : f ≤ f') (h : pValue f d t ≠ .error .fuel) :
    pValue f' d t = pValue f d t := by
  induction hle with
  | refl => rfl
  | step _ ih => rw [((sound_all _).1 d t).stable (ih ▸ h), ih]

theorem pValue_fuel_indep (f f' d : Nat) (t : List Char) (h : t.length < f) (h' : t.length < f') :
    pValue f d t = pValue f' d t := by
  rcases Nat.le_total f f' with hle | hle
  · exact (pValue_fuel_le hle (pValue_ne_fuel f d t h)).symm
  · exact pValue_fuel_le hle (pValue_ne_fuel f' d t h')

/-! ### where `unsupportedNumber` comes from -/

theorem pValue_unsupported (f d : Nat) (t : List Char) (h : pValue f d t = .error .unsupportedNumber) :
    ∃ s, s <:+ t ∧ lexNumber s = .error .unsupportedNumber := ((sound_all f).1 d t).unsupported h

theorem pElems_unsupported (f d : Nat) (t : List Char) (h : pElems f d t = .error .unsupportedNumber) :
    ∃ s, s <:+ t ∧ lexNumber s = .error .unsupportedNumber := ((sound_all f).2.1 d t).unsupported h

theorem pMembers_unsupported (f d : Nat) (t : List Char) (h : pMembers f d t = .error .unsupportedNumber) :
    ∃ s, s <:+ t ∧ lexNumber s = .error .unsupportedNumber := ((sound_all f).2.2 d t).unsupported h

theorem parseValue_unsupported {t : List Char} (h : parseValue t = .error .unsupportedNumber) :
    ∃ s, s <:+ t ∧ lexNumber s = .error .unsupportedNumber :=
  (parseValue_error h).elim nofun (pValue_unsupported _ _ t)

/-- no suffix of the text starts with three or more decimal digits -/
def noThreeDigits (t : List Char) : Prop := ∀ u, u <:+ t → (digits u).1.length ≤ 2

/-- **a document without three consecutive decimal digits is never `unsupportedNumber`**: the reader's answer on it is the modelled serde_json answer -/
theorem parseValue_supported {t : List Char} (h : noThreeDigits t) : parseValue t ≠ .error .unsupportedNumber := by
  intro he
  obtain ⟨s, hs, hl⟩ := parseValue_unsupported he
  obtain ⟨u, hu, h3⟩ := lexNumber_unsupported hl
  have := h u (hu.trans hs)
  omega

theorem layoutOfFile_supported {b : List UInt8} {t : List Char} (hb : utf8Decode b = some t)
    (h : noThreeDigits t) : layoutOfFile b ≠ .error .unsupportedNumber :=
  fun he => (layoutOfFile_error he).elim nofun fun hv => (valueOfFile_error hv).elim nofun fun ⟨_, ht, hp⟩ =>
    parseValue_supported h (Option.some.inj (hb.symm.trans ht) ▸ hp)

/-- executable form of `noThreeDigits` -/
def noThreeDigitsB : List Char → Bool
  | [] => true
  | c :: r => decide ((digits (c :: r)).1.length ≤ 2) && noThreeDigitsB r

theorem noThreeDigitsB_sound (t : List Char) (h : noThreeDigitsB t = true) : noThreeDigits t := by
  induction t with
  | nil =>
    intro u hu
    rw [List.suffix_nil] at hu
    subst hu
    exact Nat.zero_le _
  | cons c r ih =>
    simp only [noThreeDigitsB, Bool.and_eq_true, decide_eq_true_eq] at h
    intro u hu
    rcases List.suffix_cons_iff.mp hu with rfl | hu
    · exact h.1
    · exact ih h.2 u hu

/-! ### test vectors -/

/-- the error of a read, if any -/
def errOf {α : Type} : R α → Option ReadErr
  | .ok _ => none
  | .error e => some e

/-- a small layout file: `{"layout": {"Key_A": "আ\u09a6", "Key_B": ""}, "info": {"version": 12, "x": -1.5e-7, "l": [1, 22]}}` -/
def sampleDoc : List Char :=
  ['{', '"', 'l', 'a', 'y', 'o', 'u', 't', '"', ':', ' ', '{', '"', 'K', 'e', 'y', '_', 'A', '"', ':', ' ',
   '"', 'আ', '\\', 'u', '0', '9', 'a', '6', '"', ',', ' ', '"', 'K', 'e', 'y', '_', 'B', '"', ':', ' ', '"',
   '"', '}', ',', ' ', '"', 'i', 'n', 'f', 'o', '"', ':', ' ', '{', '"', 'v', 'e', 'r', 's', 'i', 'o', 'n',
   '"', ':', ' ', '1', '2', ',', ' ', '"', 'x', '"', ':', ' ', '-', '1', '.', '5', 'e', '-', '7', ',', ' ',
   '"', 'l', '"', ':', ' ', '[', '1', ',', ' ', '2', '2', ']', '}', '}']

example : noThreeDigits sampleDoc := noThreeDigitsB_sound _ (by decide +kernel)
example : errOf (parseValue sampleDoc) = none := by decide +kernel
example : errOf (parseValue ['1', 'e', '9', '9', '9']) = some .unsupportedNumber := by decide +kernel
example : errOf (parseValue ['[', '1', 'e', '9', '9', ']']) = none := by decide +kernel
example : ¬ noThreeDigitsB ['1', 'e', '9', '9', '9'] = true := by decide +kernel
example : errOf (layoutOfFile (Riti.Json.utf8Encode sampleDoc)) = none := by decide +kernel
example : utf8Decode (Riti.Json.utf8Encode sampleDoc) = some sampleDoc := by decide +kernel

end Riti.JsonValue
