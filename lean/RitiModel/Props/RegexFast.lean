/-
Props/RegexFast — the position-set matcher `Rx.matchesFast` (what the trace validator runs on long words) is the same
function as the backtracking matcher `Rx.matches`, hence decides exactly the language `Lang` of the expression, and
`dictSearchFast = dictSearch`: every theorem of `Props/Regex` and `Props/RegexTotal` applies to what the validator computes.
-/
import RitiModel.Model.Regex
import RitiModel.Lemmas.RegexFast
import RitiModel.Props.Regex
namespace Riti.Regex
open Riti Riti.Gen

/-! ### 1. the bit set of the positions where a predicate holds -/

/-- no bit beyond the string -/
theorem posMask_bound {p : Char → Bool} {s : List Char} {off i : Nat} (h : (posMask p s off).testBit i = true) :
    i < off + s.length := by
  obtain ⟨j, rfl, x, hx, _⟩ := (posMask_testBit p s off i).1 h
  have := (List.getElem?_eq_some_iff.1 hx).1
  omega

/-! ### 2. the position-set algorithm -/

/-- a set of positions of `s` (bit set) -/
def Within (s : List Char) (S : Nat) : Prop := ∀ j, S.testBit j = true → j ≤ s.length

/-- `i` is reachable from `S` through `r`: a word of the language of `r` lies between a position of `S` and `i` -/
def Reach (s : List Char) (r : Rx) (S : Nat) (i : Nat) : Prop :=
  ∃ j, S.testBit j = true ∧ j ≤ i ∧ i ≤ s.length ∧ Lang r (seg s j i)

private theorem reach_zero {s : List Char} {r : Rx} {i : Nat} : Nat.testBit 0 i = true ↔ Reach s r 0 i := by
  simp [Reach]

/-- an expression whose words are the single characters satisfying `p`: the positions of `S` whose character satisfies
    `p`, shifted by one -/
private theorem char_reach {s : List Char} {r : Rx} {p : Char → Bool} (hr : ∀ w, Lang r w ↔ ∃ x, p x = true ∧ w = [x])
    {S : Nat} (i : Nat) : ((S &&& posMask p s 0) <<< 1).testBit i = true ↔ Reach s r S i := by
  rw [Nat.testBit_shiftLeft, Bool.and_eq_true, Nat.testBit_and, Bool.and_eq_true, posMask_testBit]
  simp only [Reach, hr, decide_eq_true_eq, Nat.zero_add]
  constructor
  · rintro ⟨h1, h2, j, hj, x, hx, hp⟩
    have := (List.getElem?_eq_some_iff.1 hx).1
    exact ⟨j, hj ▸ h2, by omega, by omega, x, hp, (seg_eq_singleton_iff (by omega) (by omega)).2 ⟨by omega, hx⟩⟩
  · rintro ⟨j, h, h1, h2, x, hp, h3⟩
    obtain ⟨rfl, hx⟩ := (seg_eq_singleton_iff h1 h2).1 h3
    exact ⟨Nat.le_add_left .., h, j, rfl, x, hx, hp⟩

private theorem reach_eps {s : List Char} {S : Nat} (hS : Within s S) (i : Nat) :
    S.testBit i = true ↔ Reach s .eps S i := by
  simp only [Reach, lang_eps_iff]
  constructor
  · intro h; exact ⟨i, h, Nat.le_refl _, hS i h, (seg_eq_nil_iff (Nat.le_refl _) (hS i h)).2 rfl⟩
  · rintro ⟨j, h, h1, h2, h3⟩
    rw [(seg_eq_nil_iff h1 h2).1 h3]; exact h

/-- THE INVARIANT of the position-set algorithm: started from a set `S` of positions of `s`, `r.ends s S` is exactly the
    set of positions `i` such that a word of the language of `r` lies between some position `j ∈ S` and `i` -/
theorem ends_reach (s : List Char) (r : Rx) (S : Nat) : Within s S →
    ∀ i, (r.ends s S).testBit i = true ↔ Reach s r S i := by
  -- along the definition; from the empty set (cases 2, 4, 6, 8, 10) nothing is reached
  fun_induction Rx.ends s r S with
  | case1 => exact fun hS i => reach_eps hS i
  | case2 | case4 | case6 | case8 | case10 => exact fun _ _ => reach_zero
  | case3 c => exact fun _ i => char_reach (fun w => by simp [lang_chr_iff]) i
  | case5 cs => exact fun _ i => char_reach (fun w => by simp [lang_cls_iff]) i
  | case7 a b S _ iha ihb =>
    intro hS i
    have hT : Within s (a.ends s S) := fun k hk => by
      obtain ⟨_, _, _, h, _⟩ := (iha hS k).1 hk; exact h
    rw [ihb hT]
    simp only [Reach, lang_cat_iff]
    constructor
    · rintro ⟨k, hk, hki, hi, hb⟩
      obtain ⟨j, hj, hjk, _, ha⟩ := (iha hS k).1 hk
      exact ⟨j, hj, by omega, hi, seg s j k, seg s k i, (seg_append hjk hki).symm, ha, hb⟩
    · rintro ⟨j, hj, hji, hi, s1, s2, hs, ha, hb⟩
      obtain ⟨hk, e1, e2⟩ := seg_split hji hi hs
      refine ⟨j + s1.length, ?_, hk, hi, e2 ▸ hb⟩
      exact (iha hS _).2 ⟨j, hj, by omega, by omega, e1 ▸ ha⟩
  | case9 a b S _ iha ihb =>
    intro hS i
    rw [Nat.testBit_or, Bool.or_eq_true, iha hS, ihb hS]
    simp only [Reach, lang_alt_iff, and_or_left, exists_or]
  | case11 a S _ iha =>
    intro hS i
    rw [Nat.testBit_or, Bool.or_eq_true, iha hS, reach_eps hS i]
    simp only [Reach, lang_opt_iff, lang_eps_iff, and_or_left, exists_or]
  | case12 a S iha =>
    intro hS i
    rw [iha hS]
    simp only [Reach, lang_grp_iff]

/-- `ends_reach` spelled out: for a set `S` of positions of `s`, bit `i` of `r.ends s S` is set iff some `j ∈ S`, `j ≤ i ≤
    |s|`, has the characters from `j` to `i` in the language of `r` -/
theorem ends_spec (s : List Char) (r : Rx) (S : Nat) (hS : ∀ j, S.testBit j = true → j ≤ s.length) (i : Nat) :
    (r.ends s S).testBit i = true ↔
      ∃ j, S.testBit j = true ∧ j ≤ i ∧ i ≤ s.length ∧ Lang r ((s.drop j).take (i - j)) :=
  ends_reach s r S hS i

/-- the side condition is preserved: the algorithm never produces a position beyond the end of the string -/
theorem ends_within (s : List Char) (r : Rx) (S : Nat) (hS : Within s S) : Within s (r.ends s S) := fun i hi => by
  obtain ⟨_, _, _, h, _⟩ := (ends_reach s r S hS i).1 hi; exact h

/-- the short-circuit: nothing is reachable from the empty set -/
theorem ends_zero (s : List Char) (r : Rx) : r.ends s 0 = 0 := by
  induction r with
  | grp a ih => simpa [Rx.ends] using ih
  | _ => simp [Rx.ends]

/-- the side condition is needed: a stray bit beyond the end of the string survives `eps` (and `opt`), although no
    segment ends there -/
example : (Rx.eps.ends ['a'] (1 <<< 5)).testBit 5 = true ∧
    ¬ ∃ j, (1 <<< 5).testBit j = true ∧ j ≤ 5 ∧ 5 ≤ ['a'].length ∧ Lang .eps ((['a'].drop j).take (5 - j)) := by
  refine ⟨by decide, ?_⟩
  rintro ⟨j, _, _, h, _⟩
  simp at h

/-! ### 3. the two matchers are the same function -/

/-- the position-set matcher decides exactly membership in the language, for every expression and string -/
theorem matchesFast_iff (r : Rx) (s : List Char) : r.matchesFast s = true ↔ Lang r s := by
  unfold Rx.matchesFast
  -- the only position of the set `1` is `0`, and the segment from `0` to the end is the string
  rw [ends_reach s r 1 fun j hj => Nat.testBit_one_eq_true_iff_self_eq_zero.1 hj ▸ Nat.zero_le _]
  simp only [Reach, Nat.testBit_one_eq_true_iff_self_eq_zero, exists_eq_left, Nat.zero_le, Nat.le_refl, true_and,
    seg_zero_length]

/-- the matcher the trace validator runs on long words IS the proved matcher -/
theorem matchesFast_eq : Rx.matchesFast = Rx.matches := by
  funext r s; rw [Bool.eq_iff_iff, matchesFast_iff, matches_iff]

/-- the look-up with the position-set matcher is the look-up: `dictSearch_spec`, `dictSearch_total`, … all apply to it -/
theorem dictSearchFast_eq (dict : String → List (List Char)) (w : List Char) :
    dictSearchFast dict w = dictSearch dict w := by
  unfold dictSearchFast dictSearch
  rw [matchesFast_eq]

/-- whatever the fast matcher accepts has a length between the bounds of the expression -/
theorem matchesFast_length {r : Rx} {s : List Char} (h : r.matchesFast s = true) :
    r.minLen ≤ s.length ∧ s.length ≤ r.maxLen := lang_length ((matchesFast_iff r s).1 h)

/-! ### 4. samples (kernel-checked) -/

/-- the bits of a mask: positions 0 and 2 of `aba`, shifted by 3 -/
example : posMask (· == 'a') ['a', 'b', 'a'] 3 = 0b101000 := by decide
/-- `(a|ab)(c|bcd)?d?` on `abcd`: from position 0 the ends are 1, 2 (first group), then 1, 2, 3 (`c`), 4 (`bcd`), then `d` -/
example : (Rx.cat (.alt (.chr 'a') (.cat (.chr 'a') (.chr 'b'))) (.opt (.alt (.chr 'c') (.cat (.chr 'b') (.cat (.chr 'c') (.chr 'd')))))).ends
    ['a', 'b', 'c', 'd'] 1 = 0b11110 := by decide
/-- `আমি` is accepted and `আম` rejected by the fast matcher on the expression generated for `ami` -/
example : (parseAnchored (rxString "ami".toList)).any
    (fun r => r.matchesFast "আমি".toList && !r.matchesFast "আম".toList) = true := by
  rw [matchesFast_eq]; exact ami_sample
/-- the look-up through the fast matcher on the tiny dictionary of `Props/Regex` -/
example : dictSearchFast tinyDict "ami".toList = some ["আমি".toList, "আমি".toList, "এমি".toList] := by
  rw [dictSearchFast_eq]; exact dictSearch_ami
/-- fifty `o`s (the word that takes the backtracking matcher minutes): the fast matcher answers in the kernel -/
example : (parseAnchored (rxString (List.replicate 50 'o'))).any
    (fun r => r.matchesFast (List.replicate 25 'ও') && !r.matchesFast ['ক']) = true := by decide +kernel

end Riti.Regex
