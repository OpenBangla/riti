/-
Lemmas/Ffi — the handle table of Model/Ffi: look-up after insert / erase / allocation, the
well-formedness invariant (live handles are below the counter and pairwise distinct), the vocabulary
in which C19 speaks of a call (`FfiOp.frees`, `FfiOut.returned`, `C19.allocates`, `C19.apiAccessor`),
the shapes a successful call can have (`ffiStep_shape`, the one case analysis of `ffiStep`), its
effect on the sets of live handles (`stepSpec`), and invariants of call sequences (`ffiRun_induct`).
-/
import RitiModel.Model.Ffi
import RitiModel.Lemmas.Store
import RitiModel.Lemmas.PhoneticStep
namespace Riti

def keys {β : Type} (l : List (Nat × β)) : List Nat := l.map (·.1)

@[simp] theorem keys_nil {β : Type} : keys ([] : List (Nat × β)) = [] := rfl
@[simp] theorem keys_cons {β : Type} (p : Nat × β) (l : List (Nat × β)) : keys (p :: l) = p.1 :: keys l := rfl

section tables
variable {β : Type} {l : List (Nat × β)}

theorem alookup_cons_nat (k : Nat) (v : β) (l : List (Nat × β)) (a : Nat) :
    alookup ((k, v) :: l) a = if k = a then some v else alookup l a := by
  simp [alookup]

theorem alookup_aerase (l : List (Nat × β)) (h h' : Nat) :
    alookup (aerase l h) h' = if h = h' then none else alookup l h' := by
  by_cases e : h = h'
  · rw [if_pos e, AList.alookup_eq_none_iff, ← e]
    intro hm
    obtain ⟨p, hp, hk⟩ := List.mem_map.1 hm
    exact (bne_iff_ne.1 (List.mem_filter.1 hp).2) hk
  · rw [if_neg e]
    exact AList.alookup_filter _ l h' fun a _ ha => bne_iff_ne.2 (eq_of_beq ha ▸ Ne.symm e)

theorem alookup_cons_of_lt {n h : Nat} {x v : β} (hlt : h < n) (hv : alookup l h = some v) :
    alookup ((n, x) :: l) h = some v := by
  rw [alookup_cons_nat, if_neg (Nat.ne_of_gt hlt)]; exact hv

theorem alookup_aerase_of_ne {h' h : Nat} {v : β} (hne : h' ≠ h) (hv : alookup l h = some v) :
    alookup (aerase l h') h = some v := by
  rw [alookup_aerase, if_neg hne]; exact hv

theorem mem_keys_of_alookup {k : Nat} {v : β} (h : alookup l k = some v) : k ∈ keys l :=
  (AList.alookup_isSome_iff l k).mp (by rw [h]; rfl)

theorem alookup_none_of_not_mem {β : Type} {l : List (Nat × β)} {k : Nat} (h : k ∉ keys l) :
    alookup l k = none := (AList.alookup_eq_none_iff l k).mpr h

theorem keys_ainsert_of_alookup {k : Nat} {c v : β} (h : alookup l k = some c) :
    keys (ainsert l k v) = keys l := (AList.akeys_ainsert l k v).trans (if_pos (mem_keys_of_alookup h))

theorem keys_aerase (l : List (Nat × β)) (h : Nat) : keys (aerase l h) = (keys l).filter (fun x => x != h) :=
  (List.filter_map (f := fun q : Nat × β => q.1) (p := fun x => x != h) (l := l)).symm

variable {P : β → Prop} (hl : ∀ h x, alookup l h = some x → P x)
include hl

theorem forall_alookup_cons {k : Nat} {v : β} (hv : P v) : ∀ h x, alookup ((k, v) :: l) h = some x → P x := by
  intro h x hx
  rw [alookup_cons_nat] at hx
  split at hx
  · cases hx; exact hv
  · exact hl h x hx

theorem forall_alookup_ainsert {k : Nat} {v : β} (hv : P v) : ∀ h x, alookup (ainsert l k v) h = some x → P x := by
  intro h x hx
  rw [AList.alookup_ainsert] at hx
  split at hx
  · cases hx; exact hv
  · exact hl h x hx

theorem forall_alookup_aerase {k : Nat} : ∀ h x, alookup (aerase l k) h = some x → P x := by
  intro h x hx
  rw [alookup_aerase] at hx
  split at hx
  · cases hx
  · exact hl h x hx

end tables

/-! ### well-formed heaps -/

def Heap.all (hp : Heap) : List Nat :=
  keys hp.configs ++ keys hp.contexts ++ keys hp.suggestions ++ keys hp.strings

theorem Heap.live_eq (hp : Heap) (k : Kind) :
    hp.live k = match k with
      | .config => keys hp.configs | .context => keys hp.contexts
      | .suggestion => keys hp.suggestions | .string => keys hp.strings := by
  cases k <;> rfl

theorem Heap.live_ext {hp : Heap} {f : Kind → List Nat} (h1 : keys hp.configs = f .config)
    (h2 : keys hp.contexts = f .context) (h3 : keys hp.suggestions = f .suggestion)
    (h4 : keys hp.strings = f .string) : ∀ k, hp.live k = f k
  | .config => h1 | .context => h2 | .suggestion => h3 | .string => h4

theorem Heap.all_eq (hp : Heap) :
    hp.all = hp.live .config ++ hp.live .context ++ hp.live .suggestion ++ hp.live .string := rfl

theorem Heap.mem_all {hp : Heap} {x : Nat} : x ∈ hp.all ↔ ∃ k, x ∈ hp.live k := by
  simp only [Heap.all_eq, List.mem_append]
  exact ⟨fun h => by rcases h with ((h | h) | h) | h <;> exact ⟨_, h⟩, fun ⟨k, h⟩ => by cases k <;> simp [h]⟩

theorem Heap.live_empty (k : Kind) : Heap.empty.live k = [] := by cases k <;> rfl

theorem Heap.isEmpty_iff {hp : Heap} : hp.isEmpty = true ↔ ∀ k, hp.live k = [] := by
  simp only [Heap.isEmpty, Bool.and_eq_true, List.isEmpty_iff]
  exact ⟨fun ⟨⟨⟨h1, h2⟩, h3⟩, h4⟩ k => by cases k <;> simp [Heap.live, *],
    fun h => ⟨⟨⟨List.map_eq_nil_iff.1 (h .config), List.map_eq_nil_iff.1 (h .context)⟩,
      List.map_eq_nil_iff.1 (h .suggestion)⟩, List.map_eq_nil_iff.1 (h .string)⟩⟩

/-- the invariant of the handle table: every live handle was issued by the counter, and no handle
    is live twice — neither within a kind nor across kinds (a pointer has one type) -/
structure Heap.WF (hp : Heap) : Prop where
  lt : ∀ x ∈ hp.all, x < hp.next
  nodup : hp.all.Nodup

theorem Heap.wf_empty : Heap.empty.WF := ⟨by simp [Heap.all, Heap.empty], by simp [Heap.all, Heap.empty]⟩

theorem Heap.WF.live_lt {hp : Heap} (hwf : hp.WF) {k : Kind} {x : Nat} (hx : x ∈ hp.live k) : x < hp.next :=
  hwf.lt x (Heap.mem_all.mpr ⟨k, hx⟩)

/-! ### what a call hands out and what it is asked to free -/

def FfiOut.returned (o : FfiOut) (k : Kind) : List Nat :=
  match o with
  | .handle k' h => if k' = k then [h] else []
  | _ => []

/-- the (non-NULL) handle of kind `k` a call is asked to free -/
def FfiOp.frees (op : FfiOp) (k : Kind) : Option Nat :=
  match op, k with
  | .configFree (some h), .config => some h
  | .contextFree (some h), .context => some h
  | .suggestionFree (some h), .suggestion => some h
  | .stringFree (some h), .string => some h
  | _, _ => none

def FfiOut.isHandle : FfiOut → Bool
  | .handle _ _ => true
  | _ => false

theorem FfiOut.returned_of_not_handle {o : FfiOut} (ho : o.isHandle = false) (k : Kind) : o.returned k = [] := by
  cases o with
  | handle => cases ho
  | _ => rfl

theorem FfiOut.mem_returned {o : FfiOut} {k : Kind} {x : Nat} : x ∈ o.returned k ↔ o = .handle k x := by
  cases o with
  | handle k' h =>
    by_cases hk : k' = k
    · simp [returned, hk, eq_comm]
    · simp [returned, hk]
  | _ => simp [returned]

theorem CfgSet.apply_isHandle (st : CfgSet) (c : Cfg × String) : (st.apply c).2.isHandle = false := by
  cases st with
  | layoutFile => simp only [CfgSet.apply]; split <;> rfl
  | _ => rfl

/-- the `*_free` function of a kind, on a non-NULL pointer -/
def FfiOp.free : Kind → Nat → FfiOp
  | .config, h => .configFree (some h)
  | .context, h => .contextFree (some h)
  | .suggestion, h => .suggestionFree (some h)
  | .string, h => .stringFree (some h)

/-- `Box::from_raw` / `CString::from_raw` + drop -/
def Heap.erase (hp : Heap) : Kind → Nat → Heap
  | .config, h => { hp with configs := aerase hp.configs h }
  | .context, h => { hp with contexts := aerase hp.contexts h }
  | .suggestion, h => { hp with suggestions := aerase hp.suggestions h }
  | .string, h => { hp with strings := aerase hp.strings h }

theorem FfiOp.frees_free (k k' : Kind) (h : Nat) : (FfiOp.free k h).frees k' = if k = k' then some h else none := by
  cases k <;> cases k' <;> rfl

theorem Heap.live_erase (hp : Heap) (k k' : Kind) (h : Nat) :
    (hp.erase k h).live k' = if k = k' then (hp.live k').filter (· != h) else hp.live k' := by
  cases k <;> cases k' <;> first | rfl | exact keys_aerase _ _

end Riti

namespace Riti.C19

/-- the Rust-API accessor a string-returning operation corresponds to -/
def apiAccessor (env : Env) : FfiOp → Option (Nat × (Sugg → Res Str))
  | .getSuggestion h i => some (h, fun sg => sg.getSuggestion i)
  | .getLonely h => some (h, Sugg.getLonely)
  | .getAux h => some (h, Sugg.getAux)
  | .getPreEdit h i => some (h, fun sg => sg.getPreEdit env i)
  | _ => none

/-- which functions hand a new object to the caller, and of which kind — i.e. which `*_free` the
    caller owes: `riti_config_new` → `riti_config_free`; `riti_context_new_with_config` →
    `riti_context_free`; `riti_get_suggestion_for_key`, `riti_context_backspace_event` →
    `riti_suggestion_free`; the four `riti_suggestion_get_*` string getters → `riti_string_free`;
    the other 25 functions (13 setters, 4 frees, commit, update, ongoing, finish, 4 scalar
    read-outs) return no pointer -/
def allocates : FfiOp → Option Kind
  | .configNew => some .config
  | .contextNew _ => some .context
  | .key _ _ _ _ => some .suggestion
  | .backspace _ _ => some .suggestion
  | .getSuggestion _ _ => some .string
  | .getLonely _ => some .string
  | .getAux _ => some .string
  | .getPreEdit _ _ => some .string
  | _ => none

end Riti.C19

namespace Riti

/-! ### the shapes of a successful call -/

theorem readStr_ok {hp : Heap} {fs : FS} {h : Nat} {f : Sugg → Res Str} {r : Heap × FS × FfiOut}
    (hs : readStr hp fs h f = .ok r) :
    ∃ sg s, alookup hp.suggestions h = some sg ∧ f sg = .ok s ∧ r = (hp.allocStr s, fs, .handle .string hp.next) := by
  unfold readStr at hs
  split at hs
  · cases hs
  · split at hs <;> cases hs
    exact ⟨_, _, ‹_›, ‹_›, rfl⟩

theorem readVal_ok {hp hp' : Heap} {fs fs' : FS} {h : Nat} {f : Sugg → Res FfiOut} {o : FfiOut}
    (hs : readVal hp fs h f = .ok (hp', fs', o)) :
    hp' = hp ∧ fs' = fs ∧ ∃ sg, alookup hp.suggestions h = some sg ∧ f sg = .ok o := by
  unfold readVal at hs
  split at hs
  · cases hs
  · split at hs <;> cases hs
    exact ⟨rfl, rfl, _, ‹_›, ‹_›⟩

/-- the shapes a successful call of the interface can have: what it was given, how it changed the
    handle table and the files, what it returned -/
inductive StepShape (w : World) (hp : Heap) (fs : FS) : FfiOp → Heap → FS → FfiOut → Prop
  /-- `*_free(NULL)`, `riti_context_ongoing_input_session`, the four scalar read-outs -/
  | noop {op : FfiOp} {o : FfiOut} (hfr : ∀ k, op.frees k = none) (hal : C19.allocates op = none)
      (ho : o.isHandle = false) : StepShape w hp fs op hp fs o
  | cfgNew : StepShape w hp fs .configNew
      { hp with configs := (hp.next, (({} : Cfg), "")) :: hp.configs, next := hp.next + 1 } fs
      (.handle .config hp.next)
  | cfgSet {h : Nat} {c : Cfg × String} (st : CfgSet) (hc : alookup hp.configs h = some c) :
      StepShape w hp fs (.configSet h st) { hp with configs := ainsert hp.configs h (st.apply c).1 } fs (st.apply c).2
  | ctxNew {ch : Nat} {c : Cfg × String} {ctx : Ctx} (hc : alookup hp.configs ch = some c)
      (hn : Ctx.new w fs c.1 c.2 = some ctx) : StepShape w hp fs (.contextNew ch)
      { hp with contexts := (hp.next, ctx) :: hp.contexts, next := hp.next + 1 } fs (.handle .context hp.next)
  /-- commit, finish, update: an API call on a live context that returns nothing -/
  | evUnit {op : FfiOp} {h : Nat} {ev : Event} {c c' : Ctx} {fs' : FS} (hfr : ∀ k, op.frees k = none)
      (hal : C19.allocates op = none) (hev : ∀ fs2, ev ≠ .setFs fs2) (hc : alookup hp.contexts h = some c)
      (hst : step w c fs ev = .ok (c', fs', .unit)) :
      StepShape w hp fs op { hp with contexts := ainsert hp.contexts h c' } fs' .unit
  /-- key, backspace: the returned `Suggestion` is boxed -/
  | evSugg {op : FfiOp} {h : Nat} {ev : Event} {c c' : Ctx} {fs' : FS} {sg : Sugg} (hfr : ∀ k, op.frees k = none)
      (hal : C19.allocates op = some .suggestion) (hev : ∀ fs2, ev ≠ .setFs fs2)
      (hc : alookup hp.contexts h = some c) (hst : step w c fs ev = .ok (c', fs', .sugg sg)) :
      StepShape w hp fs op (({ hp with contexts := ainsert hp.contexts h c' }).allocSugg sg) fs'
        (.handle .suggestion hp.next)
  /-- the four string read-outs -/
  | read {op : FfiOp} {h : Nat} {f : Sugg → Res Str} {sg : Sugg} {s : Str} (hfr : ∀ k, op.frees k = none)
      (hal : C19.allocates op = some .string) (ha : C19.apiAccessor w.env op = some (h, f))
      (hsg : alookup hp.suggestions h = some sg) (hf : f sg = .ok s) :
      StepShape w hp fs op (hp.allocStr s) fs (.handle .string hp.next)
  | free (k : Kind) {h : Nat} (hl : h ∈ hp.live k) : StepShape w hp fs (.free k h) (hp.erase k h) fs .unit

section
variable {w : World} {hp hp' : Heap} {fs fs' : FS} {op : FfiOp} {o : FfiOut}

/-- `key` and `backspace` return a `Suggestion`, the other API calls nothing (both sides in the form
    in which `C19.allocates` names the kind of object handed out) -/
theorem step_out {c c' : Ctx} {ev : Event} {out : Out} : step w c fs ev = .ok (c', fs', out) →
    (match out with | .sugg _ => some Kind.suggestion | .unit => none) =
      match ev with | .key .. | .backspace .. => some .suggestion | _ => none := by
  intro hst
  cases hm : c.m with
  | phonetic s => cases step_phonetic hm hst <;> rfl
  | fixed l s => cases step_fixed hm hst <;> rfl

theorem StepShape.ofEvent {h : Nat} {ev : Event} (hfr : ∀ k, op.frees k = none)
    (hal : C19.allocates op = match ev with | .key .. | .backspace .. => some .suggestion | _ => none)
    (hev : ∀ fs2, ev ≠ .setFs fs2) (he : ctxEvent w hp fs h ev = .ok (hp', fs', o)) :
    StepShape w hp fs op hp' fs' o := by
  unfold ctxEvent at he
  split at he
  · cases he
  · rename_i c hc
    split at he
    · cases he
    · rename_i hst; cases he; exact .evUnit hfr (hal.trans (step_out hst).symm) hev hc hst
    · rename_i hst; cases he; exact .evSugg hfr (hal.trans (step_out hst).symm) hev hc hst

theorem StepShape.ofFree {k : Kind} {h : Nat} (hs : ffiStep w hp fs (.free k h) = .ok (hp', fs', o)) :
    StepShape w hp fs (.free k h) hp' fs' o := by
  cases k <;> simp only [FfiOp.free, ffiStep] at hs <;> split at hs <;> cases hs <;>
    exact .free _ (mem_keys_of_alookup ‹_›)

theorem ffiStep_shape (hs : ffiStep w hp fs op = .ok (hp', fs', o)) : StepShape w hp fs op hp' fs' o := by
  cases op with
  | configNew => cases hs; exact .cfgNew
  | configSet h st =>
    cases hc : alookup hp.configs h <;> simp only [ffiStep, hc] at hs <;> cases hs
    exact .cfgSet st hc
  | contextNew ch =>
    cases hc : alookup hp.configs ch with
    | none => simp only [ffiStep, hc] at hs; cases hs
    | some c =>
      cases hn : Ctx.new w fs c.1 c.2 <;> simp only [ffiStep, hc, hn] at hs <;> cases hs
      exact .ctxNew hc hn
  | configFree oh => cases oh with
    | none => cases hs; exact .noop (fun _ => rfl) rfl rfl
    | some h => exact .ofFree (k := .config) hs
  | contextFree oh => cases oh with
    | none => cases hs; exact .noop (fun _ => rfl) rfl rfl
    | some h => exact .ofFree (k := .context) hs
  | suggestionFree oh => cases oh with
    | none => cases hs; exact .noop (fun _ => rfl) rfl rfl
    | some h => exact .ofFree (k := .suggestion) hs
  | stringFree oh => cases oh with
    | none => cases hs; exact .noop (fun _ => rfl) rfl rfl
    | some h => exact .ofFree (k := .string) hs
  | key | backspace | commit | finish => exact .ofEvent (fun _ => rfl) rfl (fun _ => Event.noConfusion) hs
  | update h ch =>
    cases hc : alookup hp.configs ch <;> simp only [ffiStep, hc] at hs
    · cases hs
    · exact .ofEvent (fun _ => rfl) rfl (fun _ => Event.noConfusion) hs
  | ongoing h =>
    cases hc : alookup hp.contexts h <;> simp only [ffiStep, hc] at hs <;> cases hs
    exact .noop (fun _ => rfl) rfl rfl
  | getSuggestion | getLonely | getAux | getPreEdit =>
    obtain ⟨sg, s, hsg, hf, hr⟩ := readStr_ok hs
    cases hr; exact .read (fun _ => rfl) rfl rfl hsg hf
  | prevIndex | length =>
    obtain ⟨rfl, rfl, sg, _, hf⟩ := readVal_ok hs
    refine .noop (fun _ => rfl) rfl ?_
    cases sg <;> cases hf <;> rfl
  | isLonely | isEmpty =>
    simp only [ffiStep] at hs
    obtain ⟨rfl, rfl, sg, _, hf⟩ := readVal_ok hs
    cases hf; exact .noop (fun _ => rfl) rfl rfl

/-! ### one call and the live handles -/

/-- the complete effect of one call on the live handles and the counter -/
structure StepSpec (hp hp' : Heap) (op : FfiOp) (o : FfiOut) : Prop where
  live : ∀ k, hp'.live k = o.returned k ++ (hp.live k).filter (fun x => some x != op.frees k)
  fresh : ∀ k h, o = .handle k h → h = hp.next
  next : hp'.next = if o.isHandle then hp.next + 1 else hp.next
  excl : ∀ k h, op.frees k = some h → o = .unit
  /-- only a live handle can be freed (double free / foreign pointer = error) -/
  freesLive : ∀ k h, op.frees k = some h → h ∈ hp.live k

theorem filter_ne_none (l : List Nat) : l.filter (fun x => some x != (none : Option Nat)) = l := by
  simp

theorem StepSpec.keep (hfr : ∀ k, op.frees k = none)
    (ho : o.isHandle = false) (hl : ∀ k, hp'.live k = hp.live k) (hn : hp'.next = hp.next) :
    StepSpec hp hp' op o where
  live k := by rw [hl, hfr, filter_ne_none, o.returned_of_not_handle ho]; rfl
  fresh k h e := by subst e; cases ho
  next := by rw [ho]; exact hn
  excl k h e := by rw [hfr] at e; cases e
  freesLive k h e := by rw [hfr] at e; cases e

theorem StepSpec.alloc {k : Kind} (hfr : ∀ k, op.frees k = none)
    (hl : ∀ k', hp'.live k' = (FfiOut.handle k hp.next).returned k' ++ hp.live k') (hn : hp'.next = hp.next + 1) :
    StepSpec hp hp' op (.handle k hp.next) where
  live k' := by rw [hl, hfr, filter_ne_none]
  fresh _ _ e := by cases e; rfl
  next := hn
  excl k h e := by rw [hfr] at e; cases e
  freesLive k h e := by rw [hfr] at e; cases e

theorem stepSpec (hs : ffiStep w hp fs op = .ok (hp', fs', o)) : StepSpec hp hp' op o := by
  cases ffiStep_shape hs with
  | noop hfr _ ho => exact .keep hfr ho (fun _ => rfl) rfl
  | cfgNew => exact .alloc (fun _ => rfl) (Heap.live_ext rfl rfl rfl rfl) rfl
  | cfgSet st hc =>
    exact .keep (fun _ => rfl) (st.apply_isHandle _) (Heap.live_ext (keys_ainsert_of_alookup hc) rfl rfl rfl) rfl
  | ctxNew => exact .alloc (fun _ => rfl) (Heap.live_ext rfl rfl rfl rfl) rfl
  | evUnit hfr _ _ hc => exact .keep hfr rfl (Heap.live_ext rfl (keys_ainsert_of_alookup hc) rfl rfl) rfl
  | evSugg hfr _ _ hc =>
    exact .alloc hfr (Heap.live_ext rfl (keys_ainsert_of_alookup hc) rfl rfl) rfl
  | read hfr => exact .alloc hfr (Heap.live_ext rfl rfl rfl rfl) rfl
  | free k hl =>
    refine ⟨fun k' => ?_, nofun, ?_, fun _ _ _ => rfl, fun k' h' e => ?_⟩
    · rw [Heap.live_erase, FfiOp.frees_free]
      split
      · rfl
      · exact (filter_ne_none _).symm
    · cases k <;> rfl
    · rw [FfiOp.frees_free] at e
      split at e <;> cases e
      subst k'; exact hl

theorem StepSpec.next_le (sp : StepSpec hp hp' op o) : hp.next ≤ hp'.next := by
  rw [sp.next]; split <;> omega

theorem StepSpec.mem_live (sp : StepSpec hp hp' op o) {k : Kind} {x : Nat} :
    x ∈ hp'.live k ↔ o = .handle k x ∨ (x ∈ hp.live k ∧ op.frees k ≠ some x) := by
  rw [sp.live k, List.mem_append, FfiOut.mem_returned, List.mem_filter, bne_iff_ne, ne_comm]

theorem StepSpec.wf (sp : StepSpec hp hp' op o) (hwf : hp.WF) : hp'.WF := by
  constructor
  · intro x hx
    obtain ⟨k, hk⟩ := Heap.mem_all.mp hx
    rcases sp.mem_live.mp hk with rfl | ⟨h, _⟩
    · rw [sp.next, sp.fresh k x rfl]; exact Nat.lt_succ_self _
    · exact Nat.lt_of_lt_of_le (hwf.live_lt h) sp.next_le
  · cases o with
    | handle k h =>
      -- an allocation: nothing is freed, the fresh handle is above every live one
      have hf : ∀ k', op.frees k' = none := fun k' => by
        cases hfr : op.frees k' with
        | none => rfl
        | some y => cases sp.excl k' y hfr
      cases sp.fresh k h rfl
      have hperm : hp'.all.Perm (hp.next :: hp.all) := by
        simp only [Heap.all_eq, sp.live, hf, filter_ne_none]
        cases k
        · exact .refl _
        · exact (List.perm_middle.append_right _).append_right _
        · exact List.perm_middle.append_right _
        · exact List.perm_middle
      exact hperm.nodup_iff.mpr (List.nodup_cons.mpr ⟨fun hm => Nat.lt_irrefl _ (hwf.lt _ hm), hwf.nodup⟩)
    | _ =>
      refine hwf.nodup.sublist ?_
      simp only [Heap.all_eq, sp.live, FfiOut.returned, List.nil_append]
      exact ((List.filter_sublist.append List.filter_sublist).append List.filter_sublist).append
        List.filter_sublist

theorem wf_step (hs : ffiStep w hp fs op = .ok (hp', fs', o)) (hwf : hp.WF) : hp'.WF := (stepSpec hs).wf hwf

/-! ### sequences of calls -/

theorem ffiRun_cons {hp'' : Heap} {fs'' : FS} {ops : List FfiOp} {os : List FfiOut}
    (hr : ffiRun w hp fs (op :: ops) = .ok (hp'', fs'', os)) :
    ∃ hp' fs' o os', ffiStep w hp fs op = .ok (hp', fs', o) ∧ ffiRun w hp' fs' ops = .ok (hp'', fs'', os') ∧
      os = o :: os' := by
  rw [ffiRun] at hr
  split at hr
  · cases hr
  · rename_i hs
    split at hr <;> cases hr
    exact ⟨_, _, _, _, hs, ‹_›, rfl⟩

theorem ffiRun_induct {I : Heap → FS → Prop} {ops : List FfiOp} {os : List FfiOut}
    (hr : ffiRun w hp fs ops = .ok (hp', fs', os)) (h0 : I hp fs)
    (hstep : ∀ {hp fs hp' fs' o}, ∀ op ∈ ops, I hp fs → ffiStep w hp fs op = .ok (hp', fs', o) → I hp' fs') :
    I hp' fs' := by
  induction ops generalizing hp fs os with
  | nil => cases hr; exact h0
  | cons op ops ih =>
    obtain ⟨hp1, fs1, o, os1, hs, hr1, _⟩ := ffiRun_cons hr
    exact ih hr1 (hstep op (List.mem_cons_self ..) h0 hs) (fun op' h => hstep op' (List.mem_cons_of_mem _ h))

theorem wf_run {ops : List FfiOp} {os : List FfiOut}
    (hr : ffiRun w hp fs ops = .ok (hp', fs', os)) (hwf : hp.WF) : hp'.WF :=
  ffiRun_induct (I := fun hp _ => hp.WF) hr hwf (fun _ _ h hs => wf_step hs h)

end

end Riti
