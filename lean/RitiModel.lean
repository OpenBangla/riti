import RitiModel.Gen.BijoyTables
import RitiModel.Gen.CharClasses
import RitiModel.Gen.EmojiTables
import RitiModel.Gen.Keycodes
import RitiModel.Gen.LayoutKeys
import RitiModel.Gen.LogicConsts
import RitiModel.Gen.OkkhorPatterns
import RitiModel.Gen.OkkhorRegex
import RitiModel.Gen.PanicSites
import RitiModel.Gen.RankCmp
import RitiModel.Model.Basic
import RitiModel.Model.Bijoy
import RitiModel.Model.Chars
import RitiModel.Model.Context
import RitiModel.Model.EmojiTables
import RitiModel.Model.Ffi
import RitiModel.Model.Fixed
import RitiModel.Model.Json
import RitiModel.Model.JsonValue
import RitiModel.Model.Keys
import RitiModel.Model.Okkhor
import RitiModel.Model.Phonetic
import RitiModel.Model.Rank
import RitiModel.Model.Regex
import RitiModel.Model.Split
import RitiModel.Spec.CharSpec
import RitiModel.Spec.FixedRules
import RitiModel.Spec.LayoutSpec
import RitiModel.Lemmas.Bijoy
import RitiModel.Lemmas.BijoyFast
import RitiModel.Lemmas.C02Selection
import RitiModel.Lemmas.C14Signs
import RitiModel.Lemmas.Chars
import RitiModel.Lemmas.Candidates
import RitiModel.Lemmas.EditDistance
import RitiModel.Lemmas.Emoji
import RitiModel.Lemmas.EmojiTables
import RitiModel.Lemmas.EmojiTablesFacts
import RitiModel.Lemmas.Ffi
import RitiModel.Lemmas.Fixed
import RitiModel.Lemmas.FixedCore
import RitiModel.Lemmas.FixedRegex
import RitiModel.Lemmas.FixedStale
import RitiModel.Lemmas.FixedSuggest
import RitiModel.Lemmas.Json
import RitiModel.Lemmas.JsonValue
import RitiModel.Lemmas.JsonValueTotal
import RitiModel.Lemmas.KarOrder
import RitiModel.Lemmas.Logic
import RitiModel.Lemmas.Keys
import RitiModel.Lemmas.NoNul
import RitiModel.Lemmas.NoNulFixed
import RitiModel.Lemmas.Okkhor
import RitiModel.Lemmas.Phonetic
import RitiModel.Lemmas.PhoneticStep
import RitiModel.Lemmas.PhoneticInv
import RitiModel.Lemmas.Provenance
import RitiModel.Lemmas.Quotes
import RitiModel.Lemmas.Rank
import RitiModel.Lemmas.RealEnv
import RitiModel.Lemmas.Regex
import RitiModel.Lemmas.RegexFast
import RitiModel.Lemmas.RegexTotal
import RitiModel.Lemmas.Reph
import RitiModel.Lemmas.Sort
import RitiModel.Lemmas.SortSpec
import RitiModel.Lemmas.Split
import RitiModel.Lemmas.SplitWord
import RitiModel.Lemmas.Store
import RitiModel.Lemmas.Transparency
import RitiModel.Props.Bijoy
import RitiModel.Props.BijoySamples
import RitiModel.Props.BijoySamplesDict
import RitiModel.Props.BijoySamplesDict2
import RitiModel.Props.C01
import RitiModel.Props.C02
import RitiModel.Props.C02Selection
import RitiModel.Props.C03
import RitiModel.Props.C04
import RitiModel.Props.C05
import RitiModel.Props.C06
import RitiModel.Props.C06Fixed
import RitiModel.Props.C06Phonetic
import RitiModel.Props.C07
import RitiModel.Props.C08
import RitiModel.Props.C09
import RitiModel.Props.C10
import RitiModel.Props.C11
import RitiModel.Props.C12
import RitiModel.Props.C13
import RitiModel.Props.C14
import RitiModel.Props.C14Signs
import RitiModel.Props.C15
import RitiModel.Props.C16
import RitiModel.Props.C17
import RitiModel.Props.C18
import RitiModel.Props.C19
import RitiModel.Props.EditDistance
import RitiModel.Props.EmojiTables
import RitiModel.Props.FixedRegex
import RitiModel.Props.Json
import RitiModel.Props.Layout
import RitiModel.Props.RealEnv
import RitiModel.Props.Regex
import RitiModel.Props.RegexFast
import RitiModel.Props.SortSpec
import RitiModel.Props.RegexTotal
import RitiModel.Tie
