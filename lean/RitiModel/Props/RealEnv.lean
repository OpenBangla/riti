/-
Props/RealEnv — the property theorems for the REAL engine, modulo the data files only.

The engine model is parameterised by `Env` (transliterator, dictionary matcher, encoder, data tables) and the theorems of
Props/C01…C19 hold for every `Env`, several of them under side conditions on it.  Here the parameters are instantiated
with the modelled real components

  `convert := okConvert`        (Model/Okkhor — okkhor's Avro parser over the regenerated pattern table)
  `dictPhonetic := dictSearch`  (Model/Regex  — okkhor's regex generator + reader/matcher + riti's first-letter table)
  `bijoy := Riti.bijoy`         (Model/Bijoy  — poriborton's `unicode_to_bijoy`)

and the remaining fields with a `Data` record (the JSON data files and the emoji tables as look-up functions), as the
trace validator's `Driver.mkEnv` does (`fixedTable` and the table argument of the look-up are the SAME dictionary):
`realEnv`, in Lemmas/RealEnv with the predicates on `Data` and the tiny data set.  The side conditions of the general theorems are
then discharged, so that what is left are hypotheses on `Data` (e.g. "no entry contains U+0000").

Not modelled, as everywhere else: the size limit of the `regex` crate (`Env.dictPhonetic = none`, words of ≳ 2 000
letters).  `Regex.dictSearch_isSome` shows that the modelled look-up itself never answers `none`, so for `realEnv` the
"regex did not compile" branch of `computeEntry` is dead; the traces carry the crate's verdict for such words.

Contents
 1. the look-up of `realEnv` always answers.
 2. C19: `realEnv_noNul(_iff)` — `NoNulEnv (realEnv d) ↔ DataNoNul d`; `no_nul_real`.
 3. C16/C02/C01: `preedit_full_error_iff`, `preedit_single_error_iff` (a pre-edit read-out fails exactly for an index
    outside the list or, under ANSI, on one of U+09C4 U+09C5 U+09C6 U+09C9 U+09CA), `preedit_no_bengali_real`,
    `preEditOk_real_iff`, `no_panic_real`.
 4. C17: `c17_uncurl_real_partial`.   5. C18: `emoticon_offered_real`.   6. C03: `c03_word_real`, ….
 7. C06: the side condition of `p_backspace_empty_partial` is FALSE of the real transliterator.
 8. C08: `mem_computeEntry_real` (exact content of a memo entry), `c08_sound_real`, `dict_word_offered_real`.
 9. provenance of the characters of a candidate (Lemmas/Provenance for the real components: `realEnv_all`,
    `suggestList_real_allC`, any character predicate) and its instances:
    the encoder's panic is unreachable from the phonetic method (`pKey_preedit_total`, reachable states) and from the
    fixed method's dictionary (`ansi_fixed_candidates_noBad`); C17's last `NoCurly` proviso
    (`c17_uncurl_off_real_partial`); C07 `EmojiFresh` / C18 `EnglishNotEmoji` (`c07_nodup_real`, `emoji_transparent_real`).
10. non-vacuity: a tiny data set run end to end in the kernel (transliterator, regex look-up, suffixes, auto-correct,
    emoticon, emoji name, ANSI encoding), the data hypotheses checked on it, two findings reproduced with the real
    components.

NOT discharged (and why): `C06.p_backspace_empty_partial` (false: okkhor drops a lone back-tick, §7); `C09.StripStable`
(a proviso on the committed candidate, fails for curled candidates of the real engine, §10); `RawSame` of C17 (fails for
typed `"\"`, §10); the composed text of the FIXED method under ANSI (it comes from the layout file — a parameter — and
Probhat does type U+09C4: `fixed_lonely_panics_iff` says exactly when the read-out panics); the ordering function of
the fixed method (`sort_unstable`) and the layout files stay parameters of `World`.
-/
import RitiModel.Lemmas.RealEnv
import RitiModel.Lemmas.Transparency
import RitiModel.Props.Bijoy
import RitiModel.Props.RegexTotal
import RitiModel.Props.RegexFast
import RitiModel.Props.C02
import RitiModel.Props.C03
import RitiModel.Props.C05
import RitiModel.Props.C08
import RitiModel.Props.C09
import RitiModel.Props.C17
import RitiModel.Props.C18
import RitiModel.Props.C19
namespace Riti.Real
open Riti Riti.Gen Riti.Regex Riti.Bijoy

/-! ## 1. the look-up of the real environment -/

/-- the modelled look-up always answers: the `none` branch of `computeEntry` ("regex failed to compile") is never
    taken for the real environment (what remains outside the model is the size limit of the `regex` crate) -/
theorem dictPhonetic_real_isSome (d : Data) (w : Str) : ((realEnv d).dictPhonetic w).isSome = true :=
  dictSearch_isSome d.dictionary w

/-- the trace validator runs the position-set matcher on long words: same function -/
theorem dictPhonetic_real_fast (d : Data) : (realEnv d).dictPhonetic = dictSearchFast d.dictionary := by
  funext w; exact (dictSearchFast_eq d.dictionary w).symm

/-! ## 2. C19: NUL-freedom reduces to the data files -/

/-- **the `NoNulEnv` side condition of C19 for the real engine**: it holds as soon as the data files are NUL-free — the
    transliterator (`okConvert_noNul`), the look-up (`dictSearch_mem_table`: candidates are table words) and the encoder
    (`bijoy_noNul`) need no hypothesis -/
theorem realEnv_noNul {d : Data} (hd : DataNoNul d) : NoNulEnv (realEnv d) where
  conv := fun _ h => okConvert_noNul h
  dict := by
    intro w l h s hs
    obtain ⟨t, _, hst⟩ := dictSearch_mem_table h hs
    exact hd.dict t s hst
  sfx := hd.sfx
  ac := hd.ac
  emo := hd.emo
  emoName := hd.emoName
  emoBn := hd.emoBn
  bij := fun _ _ hs h => bijoy_noNul hs h
  table := hd.dict

/-- … and conversely: for the real engine `NoNulEnv` says exactly that the data files are NUL-free -/
theorem realEnv_noNul_iff (d : Data) : NoNulEnv (realEnv d) ↔ DataNoNul d :=
  ⟨fun h => ⟨h.table, h.sfx, h.ac, h.emo, h.emoName, h.emoBn⟩, realEnv_noNul⟩

/-- **C19 `no_nul` for the real engine**: with NUL-free data files, layout values and user auto-correct values, after
    any sequence of C-interface calls every string handed to C and every text owned by a live suggestion is NUL-free
    (C sees the whole text) — no hypothesis on transliterator, look-up or encoder is left -/
theorem no_nul_real {d : Data} (hd : DataNoNul d) {layouts : String → Option Layout} {sorter : Sorter}
    (hl : ∀ p l, layouts p = some l → NoNulLayout l) (hs : ∀ l, (sorter l).Perm l)
    {hp' : Heap} {fs fs' : FS} {ops : List FfiOp} {os : List FfiOut}
    (hfs : NoNulFS fs) (hr : ffiRun (realWorld d layouts sorter) Heap.empty fs ops = .ok (hp', fs', os)) :
    (∀ h s, alookup hp'.strings h = some s → NoNul s ∧ cView s = s) ∧
    (∀ h sg, alookup hp'.suggestions h = some sg → NoNulSugg sg) :=
  C19.no_nul ⟨realEnv_noNul hd, hl, hs⟩ hfs hr

/-- the phonetic candidate list of the real engine is NUL-free (NUL-free data, memo and typed text) -/
theorem suggestList_real_noNul {d : Data} (hd : DataNoNul d) (cfg : Cfg) {cache : Memo} (hc : MemoNoNul cache)
    {term : Str} (ht : NoNul term) : RanksNoNul (suggestList (realEnv d) cfg cache term) :=
  suggestList_noNul (realEnv_noNul hd) cfg hc ht

/-! ## 3. C16 / C02 / C01: the pre-edit text and the only remaining panic under ANSI -/

/-- reading a single-string suggestion as pre-edit text (any index): the only error is the encoder's, under ANSI,
    exactly on the five code points -/
theorem preedit_single_error_iff (d : Data) (t : Str) (a : Bool) (i : Nat) (e : Panic) :
    (Sugg.single t a).getPreEdit (realEnv d) i = .error e ↔ (a = true ∧ e = .bijoy ∧ ∃ c ∈ t, BadKar c) := by
  cases a with
  | false => simp [Sugg.getPreEdit]
  | true => simpa [Sugg.getPreEdit, realEnv] using bijoy_error_iff

/-- reading the pre-edit text of a candidate list through the real encoder: an error is either an index outside the
    list or — only under ANSI — poriborton's `panic!`, and the latter happens EXACTLY when the candidate contains one of
    U+09C4 U+09C5 U+09C6 U+09C9 U+09CA -/
theorem preedit_full_error_iff (d : Data) (aux : Str) (l : List Str) (sel : Nat) (a : Bool) (i : Nat) (e : Panic) :
    (Sugg.full aux l sel a).getPreEdit (realEnv d) i = .error e ↔
      (l[i]? = none ∧ e = .indexOutOfRange) ∨
      (a = true ∧ e = .bijoy ∧ ∃ s, l[i]? = some s ∧ ∃ c ∈ s, BadKar c) := by
  cases hi : l[i]? with
  | none => simp [Sugg.getPreEdit, hi, eq_comm]
  | some s =>
    have h : (Sugg.full aux l sel a).getPreEdit (realEnv d) i = (Sugg.single s a).getPreEdit (realEnv d) i := by
      simp only [Sugg.getPreEdit, hi]
    simp [h, preedit_single_error_iff]

/-- **C02 `preedit_readable` for the real engine**: every index below the length can be read as pre-edit text unless
    (ANSI on and) the candidate contains one of the five code points — no hypothesis on the encoder -/
theorem preedit_readable_real (d : Data) {aux : Str} {l : List Str} {sel : Nat} {a : Bool} {i : Nat} (h : i < l.length)
    (hb : a = true → ∀ c ∈ l[i], ¬ BadKar c) :
    ∃ t, (Sugg.full aux l sel a).getPreEdit (realEnv d) i = .ok t :=
  C02.preedit_readable (realEnv d) aux l sel a i h (fun ha => bijoy_total (hb ha))

/-- **C02 `single_readable` for the real engine** -/
theorem single_readable_real (d : Data) (t : Str) (a : Bool) (hb : a = true → ∀ c ∈ t, ¬ BadKar c) :
    ∃ u, (Sugg.single t a).getPreEdit (realEnv d) 0 = .ok u :=
  C02.single_readable (realEnv d) t a (fun ha => bijoy_total (hb ha))

/-- the `get_pre_edit_text` clause of the C-interface contract (`C19.PreEditOk`), spelled out for the real encoder:
    the index is inside the list and — under ANSI — the text is free of the five code points -/
theorem preEditOk_real_iff (d : Data) (sg : Sugg) (i : Nat) :
    C19.PreEditOk (realEnv d) sg i ↔
      match sg with
      | .full _ l _ a => ∃ s, l[i]? = some s ∧ (a = true → ∀ c ∈ s, ¬ BadKar c)
      | .single s a => a = true → ∀ c ∈ s, ¬ BadKar c := by
  cases sg with
  | full aux l sel a => simp only [C19.PreEditOk, realEnv, bijoy_ok_iff]
  | single s a => simp only [C19.PreEditOk, realEnv, bijoy_ok_iff]

/-- **C16, second half, for the real engine**: with ANSI on, the pre-edit text of every candidate of a returned list
    contains no Bengali-block code point — no hypothesis on the encoder -/
theorem preedit_no_bengali_real (d : Data) (cfg : Cfg) (ha : cfg.ansi = true) (sg : Sugg)
    (hf : C16.flag sg = cfg.ansi) (i : Nat) (c t : Str) (h : sg.getSuggestion i = .ok c)
    (ht : sg.getPreEdit (realEnv d) i = .ok t) : ∀ ch ∈ t, ¬ (0x0980 ≤ ch.toNat ∧ ch.toNat ≤ 0x09FF) :=
  Bijoy.preedit_no_bengali (realEnv d) rfl cfg ha sg hf i c t h ht

/-- … and reading it back panics exactly when the candidate contains one of the five code points (ANSI on) -/
theorem preedit_panics_iff_real (d : Data) (cfg : Cfg) (ha : cfg.ansi = true) (sg : Sugg)
    (hf : C16.flag sg = cfg.ansi) (i : Nat) (c : Str) (h : sg.getSuggestion i = .ok c) :
    sg.getPreEdit (realEnv d) i = .error .bijoy ↔ ∃ ch ∈ c, BadKar ch := by
  rw [C16.preedit_of_returned (realEnv d) cfg sg hf i c h, ha]
  exact bijoy_panics_iff c

/-- **C01 for the real engine**: every in-contract history of API calls returns normally (`C01.no_panic`, which has
    no side condition), and a read-out of a returned suggestion as pre-edit text — the one place where the `Env` can
    panic — fails only for an index outside the list or, under ANSI, on one of the five code points -/
theorem no_panic_real (d : Data) (layouts : String → Option Layout) (sorter : Sorter) (c : Ctx) (fs : FS)
    (evs : List Event) (h : C01.InContract (realWorld d layouts sorter) c fs evs) :
    (∃ r, runFrom (realWorld d layouts sorter) c fs evs = .ok r) ∧
    (∀ (sg : Sugg) (i : Nat) (e : Panic), sg.getPreEdit (realEnv d) i = .error e →
      e = .indexOutOfRange ∨ (e = .bijoy ∧ C16.flag sg = true)) := by
  refine ⟨C01.no_panic _ c fs evs h, ?_⟩
  intro sg i e he
  cases sg with
  | full aux l sel a =>
    rcases (preedit_full_error_iff d aux l sel a i e).1 he with ⟨_, h⟩ | ⟨ha, h, _⟩
    · exact Or.inl h
    · exact Or.inr ⟨h, ha⟩
  | single t a =>
    obtain ⟨ha, h, _⟩ := (preedit_single_error_iff d t a i e).1 he
    exact Or.inr ⟨h, ha⟩

/-! ## 4. C17: smart quotes -/

/-- the transliterated punctuation around the word never contains a curly quote when the typed text does not (and
    keyboard text never does: `C17.typed_char_noCurly`) -/
theorem punct_noCurly_real (d : Data) (term : Str) (h : NoCurly term) :
    NoCurly (C17.lead (realEnv d) term) ∧ NoCurly (C17.tail (realEnv d) term) :=
  C17.okkhor_punct_noCurly (realEnv d) rfl term h

/-- **C17 for the real engine** (PARTIAL with the same exclusion as `C17.c17_lists_partial`: the typed text must not
    collide with a wrapped candidate on one side only, `RawSame`): for every typed text the candidate texts with the
    option on and off agree after mapping curly quotes back — the `NoCurly` side conditions on the transliterated
    punctuation are discharged -/
theorem c17_uncurl_real_partial (d : Data) (cfg : Cfg) (cache : Memo) (term : Str) (hterm : NoCurly term)
    (hraw : (split term false).word ≠ [] → C17.RawSame (realEnv d) cfg cache term) :
    (suggestList (realEnv d) (C17.on cfg) cache term).map (uncurl ∘ Rank.text) =
      (suggestList (realEnv d) (C17.off cfg) cache term).map (uncurl ∘ Rank.text) :=
  C17.c17_uncurl_all_partial (realEnv d) cfg cache term hraw (punct_noCurly_real d term hterm).1
    (punct_noCurly_real d term hterm).2

/-! ## 5. C18: emoticons -/

/-- **C18 `emoticon_offered` for the real engine**: typing an emoticon of the table offers its emoji AND keeps the
    literal typed text available — every data set, memo, typed text and option vector outside ANSI mode; the side
    conditions on the transliterator (`convert "" = ""`, `PunctFaithful`) are discharged -/
theorem emoticon_offered_real (d : Data) (cfg : Cfg) (cache : Memo) (term e : Str)
    (hansi : cfg.ansi = false) (he : d.emoticon term = some e) :
    e ∈ (suggestList (realEnv d) cfg cache term).map Rank.text ∧
      term ∈ (suggestList (realEnv d) cfg cache term).map Rank.text :=
  C18.emoticon_offered_okkhor (realEnv d) cfg cache term e rfl hansi he

/-- the real transliterator is `PunctFaithful` for every text and option vector -/
theorem punctFaithful_real (d : Data) (cfg : Cfg) (term : Str) : C18.PunctFaithful (realEnv d) cfg term :=
  C18.punctFaithful_okkhor (realEnv d) cfg term rfl

/-! ## 6. C03: the output is the Avro transliteration of what was typed -/

/-- clause 1 (letters and digits only, suggestions off): the single string IS `okConvert` of the typed text -/
theorem c03_word_real (d : Data) (w : Str) (h : ∀ c ∈ w, isAlnum c = true) :
    suggestOnlyPhonetic (realEnv d) w = okConvert w :=
  C03.c03_word (realEnv d) rfl w h

/-- clause 2 (a word wrapped in punctuation): the three parts are transliterated separately by `okConvert` -/
theorem c03_wrapped_real (d : Data) (lead w trail : Str) (hw : w ≠ [])
    (hwa : ∀ c ∈ w, isAlnum c = true) (hl : ∀ c ∈ lead, isPunct27 c = true) (ht : ∀ c ∈ trail, isPunct27 c = true) :
    suggestOnlyPhonetic (realEnv d) (lead ++ w ++ trail) = okConvert lead ++ okConvert w ++ okConvert trail :=
  C03.c03_wrapped (realEnv d) lead w trail hw hwa hl ht

/-- clause 3 (suggestions on): the `okConvert` transliteration (modulo curling of the wrapping quotes) is always a
    candidate, for every data set, typed text, configuration and memo -/
theorem translit_is_candidate_real (d : Data) (cfg : Cfg) (cache : Memo) (term : Str) :
    let s := split term false
    let curl := cfg.smartQuote && !s.word.isEmpty
    let p' := if curl then (okConvert s.pre).map openQuote else okConvert s.pre
    let r' := if curl then (okConvert s.trail).map closeQuote else okConvert s.trail
    (p' ++ okConvert s.word ++ r') ∈ (suggestList (realEnv d) cfg cache term).map Rank.text :=
  C03.translit_is_candidate (realEnv d) cfg cache term

/-! ## 7. C06: a side condition that is FALSE of the real transliterator -/

/-- `C06.p_backspace_empty_partial` needs "`convert` maps only the empty text to the empty text on what is left of
    the composition".  The real transliterator does NOT satisfy it (okkhor drops a lone back-tick), so the finding
    `C06.p_empty_suggestion_but_ongoing` is a finding about the real engine, over any data files: buffer `` `a ``,
    one backspace, suggestions off — the empty suggestion is returned although the session is still open -/
theorem p_empty_suggestion_but_ongoing_real (d : Data) :
    let r := pBackspace (realEnv d) {} { buffer := ['`', 'a'] } false
    r.2 = Sugg.empty ∧ pOngoing r.1 = true ∧ okConvert ['`'] = [] := by
  have h : okConvert ['`'] = [] := by decide +kernel
  have hs : suggestOnlyPhonetic (realEnv d) ['`'] = [] := by
    have : split ['`'] false = ⟨[], ['`'], []⟩ := by decide
    simp only [suggestOnlyPhonetic, this, realEnv, h]
    rfl
  refine ⟨?_, ?_, h⟩
  · simp [pBackspace, pCreateSuggestion, hs, Sugg.empty]
  · simp [pBackspace, pCreateSuggestion, pOngoing]

/-! ## 8. C08: every dictionary-derived candidate of the real engine is justified by the data files -/

/-- `t` is a justified direct candidate for the typed word `w`: the transliteration of an auto-correct value for `w`
    (user entries first, then the bundled file), or a word of a dictionary table selected by the first typed letter
    that belongs to the language of the expression `r` okkhor generates for `w` -/
def Justified (d : Data) (ua : Store) (w t : Str) : Prop :=
  (∃ c, (alookup ua w = some c ∨ (alookup ua w = none ∧ d.autocorrect w = some c)) ∧ t = okConvert c) ∨
  (∃ r tbl, parseAnchored (rxString w) = some r ∧ tbl ∈ tablesFor phoneticTables w ∧ t ∈ d.dictionary tbl ∧ Lang r t)

/-- `search_corrected` of the real engine, spelled out -/
theorem searchCorrected_real (d : Data) (ua : Store) (w c : Str) :
    searchCorrected (realEnv d) ua w = some c ↔
      (alookup ua w = some c ∨ (alookup ua w = none ∧ d.autocorrect w = some c)) :=
  searchCorrected_eq_some

/-- the memo entry the real engine computes for a word, in closed form: the auto-correct item, then — ranked against
    the transliteration — the words of the selected tables that the generated expression matches, in table order then
    file order; the expression always exists (`Regex.dictSearch_total`) -/
theorem computeEntry_real (d : Data) (ua : Store) (w : Str) :
    ∃ r, parseAnchored (rxString w) = some r ∧
      computeEntry (realEnv d) ua w =
        (match searchCorrected (realEnv d) ua w with
          | some c => [Rank.first (okConvert c)]
          | none => []) ++
        (((tablesFor phoneticTables w).flatMap d.dictionary).filter r.matches).map
          (fun s => Rank.newSuggestion s (okConvert w)) := by
  obtain ⟨r, hp, _, hds, _⟩ := dictSearch_total d.dictionary w
  refine ⟨r, hp, ?_⟩
  have hds' : (realEnv d).dictPhonetic w =
      some (((tablesFor phoneticTables w).flatMap d.dictionary).filter r.matches) := hds
  unfold computeEntry
  simp only [hds', Option.getD_some]
  rfl

/-- EXACT content of a memo entry of the real engine: an item is in it iff it is the `First` item of an auto-correct
    value or the ranked item of a dictionary word of a selected table in the language of the generated expression -/
theorem mem_computeEntry_real (d : Data) (ua : Store) (w : Str) (b : Rank) :
    b ∈ computeEntry (realEnv d) ua w ↔
      (∃ c, (alookup ua w = some c ∨ (alookup ua w = none ∧ d.autocorrect w = some c)) ∧
        b = Rank.first (okConvert c)) ∨
      (∃ r tbl c, parseAnchored (rxString w) = some r ∧ tbl ∈ tablesFor phoneticTables w ∧ c ∈ d.dictionary tbl ∧
        Lang r c ∧ b = Rank.newSuggestion c (okConvert w)) := by
  obtain ⟨r, hp, he⟩ := computeEntry_real d ua w
  rw [he, List.mem_append]
  apply or_congr
  · simp only [← searchCorrected_real]
    cases searchCorrected (realEnv d) ua w <;> simp
  · simp only [List.mem_map, List.mem_filter, List.mem_flatMap, matches_iff, hp, Option.some.injEq]
    exact ⟨fun ⟨c, ⟨⟨tbl, ht, hc⟩, hl⟩, hb⟩ => ⟨r, tbl, c, rfl, ht, hc, hl, hb.symm⟩,
      fun ⟨_, tbl, c, hr, ht, hc, hl, hb⟩ => ⟨c, ⟨⟨tbl, ht, hc⟩, hr ▸ hl⟩, hb.symm⟩⟩

/-- every item of a memo entry computed by the real engine carries a justified text -/
theorem computeEntry_real_justified {d : Data} {ua : Store} {w : Str} {b : Rank}
    (hb : b ∈ computeEntry (realEnv d) ua w) : Justified d ua w b.text := by
  rcases (mem_computeEntry_real d ua w b).1 hb with ⟨c, hc, rfl⟩ | ⟨r, tbl, c, hp, ht, hc, hl, rfl⟩
  · exact Or.inl ⟨c, hc, rfl⟩
  · exact Or.inr ⟨r, tbl, hp, ht, hc, hl⟩

/-- **C08 soundness for the real engine.**  With a memo whose entries were computed by the engine (`SoundMemo`: the
    invariant of every reachable state, `Lemmas/Transparency`), every item of the dictionary stage is — up to wrapping
    in the punctuation — (a) justified for the typed word: the transliteration of an auto-correct value, or a word of a
    dictionary table selected by the first typed letter that is in the language of the generated expression; (b) the
    transliteration of the word; or (c) a text justified in the same sense for a proper prefix `k`, joined by the
    joining rule (`C08.join_spec`) to the Bengali form of the known suffix `r`, `k ++ r = word` -/
theorem c08_sound_real (d : Data) (ua : Store) (cache : Memo) (parts : Parts) (x : Rank)
    (hm : SoundMemo (realEnv d) ua cache) (hx : x ∈ dictList (realEnv d) cache parts) :
    ∃ t, x.text = (if !parts.pre.isEmpty || !parts.trail.isEmpty then wrapText parts.pre parts.trail t else t) ∧
      (Justified d ua parts.word t ∨
       t = okConvert parts.word ∨
       (∃ k r sfx b, k ≠ [] ∧ r ≠ [] ∧ k ++ r = parts.word ∧ d.suffix r = some sfx ∧
          Justified d ua k b ∧ joinChecked b sfx = some t)) := by
  obtain ⟨t, ht, h⟩ := C08.c08_sound (realEnv d) cache parts x hx
  refine ⟨t, ht, ?_⟩
  rcases h with ⟨entry, b, he, hb, rfl⟩ | h | ⟨k, r, sfx, entry, b, hk, hr, hkr, hs, he, hb, hj⟩
  · left
    rw [(hm _ _ he).1] at hb
    exact computeEntry_real_justified hb
  · exact Or.inr (Or.inl h)
  · right; right
    rw [(hm _ _ he).1] at hb
    exact ⟨k, r, sfx, b.text, hk, hr, hkr, hs, computeEntry_real_justified hb, hj⟩

/-- the same for the list the engine returns (`suggest`): the memo it uses is the sound memo filled for the word -/
theorem c08_sound_real_suggest (d : Data) (cfg : Cfg) (s : PState) (term : Str) (x : Rank)
    (hm : SoundMemo (realEnv d) s.userAutocorrect s.cache)
    (hx : x ∈ dictList (realEnv d) (suggest (realEnv d) cfg s term).1.cache (preparedParts (realEnv d) cfg term)) :
    ∃ t, x.text = (if !(preparedParts (realEnv d) cfg term).pre.isEmpty || !(preparedParts (realEnv d) cfg term).trail.isEmpty
        then wrapText (preparedParts (realEnv d) cfg term).pre (preparedParts (realEnv d) cfg term).trail t else t) ∧
      (Justified d s.userAutocorrect (word term) t ∨
       t = okConvert (word term) ∨
       (∃ k r sfx b, k ≠ [] ∧ r ≠ [] ∧ k ++ r = word term ∧ d.suffix r = some sfx ∧
          Justified d s.userAutocorrect k b ∧ joinChecked b sfx = some t)) := by
  rw [suggest_cache] at hx
  have hs := memoFill_sound (realEnv d) s.userAutocorrect s.cache (word term) hm (word_idem term)
  have := c08_sound_real d s.userAutocorrect _ _ x hs hx
  rwa [preparedParts_word] at this

/-- **C08 completeness for the real look-up**: a word `c` of a dictionary table selected by the first typed letter that
    belongs to the language of the expression generated for the typed word IS offered (wrapped in the punctuation) in
    the list the engine returns — for every data set, configuration and sound memo -/
theorem dict_word_offered_real (d : Data) (cfg : Cfg) (ua : Store) (cache : Memo) (term : Str)
    (hm : SoundMemo (realEnv d) ua cache) {r : Rx} {tbl : String} {c : Str}
    (hr : parseAnchored (rxString (word term)) = some r) (ht : tbl ∈ tablesFor phoneticTables (word term))
    (hc : c ∈ d.dictionary tbl) (hl : Lang r c) :
    wrapText (preparedParts (realEnv d) cfg term).pre (preparedParts (realEnv d) cfg term).trail c ∈
      (suggestList (realEnv d) cfg (memoFill (realEnv d) ua cache (preparedParts (realEnv d) cfg term).word) term).map
        Rank.text := by
  have hb : Rank.newSuggestion c (okConvert (word term)) ∈ computeEntry (realEnv d) ua (word term) :=
    (mem_computeEntry_real d ua _ _).2 (Or.inr ⟨r, tbl, c, hr, ht, hc, hl, rfl⟩)
  have hlook := memoFill_lookup_self (realEnv d) ua cache (word term) hm
  have := C08.c08_direct_offered (realEnv d) cfg (memoFill (realEnv d) ua cache (word term)) term _ _
    (by rw [preparedParts_word]; exact hlook) hb
  rw [preparedParts_word]
  exact this

/-! ## 9. where the characters of a phonetic candidate come from; consequences for ANSI (C01/C02/C16) and C17

Lemmas/Provenance follows an arbitrary character predicate `P` through the candidate pipeline.  Here its hypotheses
on the environment are reduced to the data files (`realEnv_all`) and its hypothesis on the memo to the invariant of the
reachable states (`soundMemo_all`): with the real components, every character of every candidate is a character of a
data-file entry, of the typed text (possibly case-folded), of a replacement text of the Avro table, one of the three
joining letters, or — with smart quotes on — a curly quote.  Instances: the five code points poriborton panics on (so
that under ANSI NO pre-edit read-out of a phonetic candidate can panic, given data files free of them), and curly
quotes (the last side condition of `C17.c17_uncurl_off_partial`). -/

/-- the real components contribute `P` characters only, given `P` text entries in the data files: the
    transliterator by `CharOk`, the look-up because its answers are table words -/
theorem realEnv_all {P : Char → Prop} (hP : CharOk P) {d : Data} (hd : TextAll P d) : EnvAll P (realEnv d) where
  conv _ h := okConvert_allC hP h
  dict w l h s hs := by
    obtain ⟨t, _, hst⟩ := dictSearch_mem_table h hs
    exact hd.dict t s hst
  sfx := hd.sfx
  ac := hd.ac

/-- the engine's own memo holds `P` texts when the environment and the user auto-correct values do -/
theorem soundMemo_all {P : Char → Prop} {env : Env} (he : EnvAll P env) {ua : Store} (hua : StoreAll P ua)
    {cache : Memo} (hm : SoundMemo env ua cache) : MemoAll P cache :=
  fun k e hk => (hm k e hk).1 ▸ computeEntry_all he hua k

/-- **the whole candidate list of the real engine**: every character of every candidate satisfies `P`, provided `P`
    holds of what the engine adds by itself (`CharOk`; the curly quotes only if smart quotes are on), of the text
    entries of the data files and — outside ANSI mode, where the emoji tables are consulted — of the emoji, of the user
    auto-correct values and the typed text, and the memo is the engine's own (`SoundMemo`) -/
theorem suggestList_real_allC {P : Char → Prop} (hP : CharOk P) {d : Data} (hd : TextAll P d) (cfg : Cfg)
    (hemo : cfg.ansi = false → DataAll P d) (hq : QuotesOk P cfg) {ua : Store}
    (hua : StoreAll P ua) {cache : Memo} (hm : SoundMemo (realEnv d) ua cache) {term : Str} (ht : AllC P term) :
    ∀ x ∈ suggestList (realEnv d) cfg cache term, AllC P x.text :=
  have he := realEnv_all hP hd
  suggestList_all he (fun h => (hemo h).emo) (fun h => (hemo h).emoName) hP.join hq (soundMemo_all he hua hm) ht

/-! ### instance 1: the five code points of the encoder's panic -/

/-- the text contains none of U+09C4 U+09C5 U+09C6 U+09C9 U+09CA -/
abbrev NoBad (s : Str) : Prop := AllC (fun c => ¬ BadKar c) s

/-- the five code points lie outside ASCII -/
theorem not_badKar_of_ascii {c : Char} (h : c.toNat < 128) : ¬ BadKar c := by
  intro hb
  simp only [BadKar, badKars, List.mem_cons, List.not_mem_nil, or_false] at hb
  omega

/-- the engine itself never produces one of the five code points: no replacement text of the Avro table contains one
    (kernel-checked over the table), case folding and the joining letters do not -/
theorem charOk_noBad : CharOk (fun c => ¬ BadKar c) :=
  .of_sweep _ (by decide +kernel) (fun _ _ h => not_badKar_of_ascii (by omega)) (by decide)

/-- **no pre-edit panic for the real phonetic method**: whatever `create_suggestion` returns (list or single string,
    ANSI or not) for a state with ASCII composition, the engine's own memo and `BadKar`-free data / user auto-correct
    values, every candidate index can be read as pre-edit text -/
theorem phonetic_preedit_total {d : Data} (hd : TextAll (fun c => ¬ BadKar c) d) (cfg : Cfg) (s : PState)
    (hua : StoreAll (fun c => ¬ BadKar c) s.userAutocorrect)
    (hm : SoundMemo (realEnv d) s.userAutocorrect s.cache) (hb : C01.Ascii s.buffer) (i : Nat)
    (hi : ∀ aux l sel a, (pCreateSuggestion (realEnv d) cfg s).2 = .full aux l sel a → i < l.length) :
    ∃ t, (pCreateSuggestion (realEnv d) cfg s).2.getPreEdit (realEnv d) i = .ok t := by
  -- everything the keyboard can put into the composition is ASCII (`C01.buffer_ascii_key`)
  have hnb : NoBad s.buffer := fun c hc => not_badKar_of_ascii (hb c hc)
  cases hon : cfg.phoneticSuggestion with
  | true =>
    rw [pCreate_on _ _ _ hon] at hi ⊢
    refine preedit_readable_real d (hi _ _ _ _ rfl) fun hansi => ?_
    -- under ANSI (no emoji) every character of a candidate comes from the text entries, the typed text or the engine
    have hs := memoFill_sound (realEnv d) s.userAutocorrect s.cache (word s.buffer) hm (word_idem _)
    rw [← preparedParts_word (realEnv d) cfg] at hs
    rw [List.getElem_map]
    exact suggestList_real_allC charOk_noBad hd cfg (fun h => by rw [hansi] at h; cases h) (fun _ => by decide) hua hs hnb
      _ (List.getElem_mem _)
  | false =>
    rw [pCreate_off _ _ _ hon]
    exact single_readable_real d _ _ fun _ => suggestOnlyPhonetic_all (fun _ h => okConvert_allC charOk_noBad h) hnb

/-! ### at the level of the API: reachable states -/

/-- **C01/C02 under ANSI for the real phonetic method, at the level of the API.**  In ANY reachable state (any history
    of keys, backspaces, commits, finishes, idle option/file reloads, from any user files), for ANY key: every
    candidate index of the returned suggestion can be read as pre-edit text — the encoder's `panic!` is unreachable —
    provided the text entries of the data files and the current user auto-correct values are free of U+09C4 U+09C5
    U+09C6 U+09C9 U+09CA.  No hypothesis on transliterator, look-up or encoder. -/
theorem pKey_preedit_total {d : Data} (hd : TextAll (fun c => ¬ BadKar c) d) {cfg : Cfg} {S₀ : Store} {s : PState}
    (r : C05.Reach (realEnv d) cfg S₀ s) (hua : StoreAll (fun c => ¬ BadKar c) s.userAutocorrect)
    (key sel i : Nat)
    (hi : ∀ aux l sel' a, (pKey (realEnv d) cfg s key sel).2 = .full aux l sel' a → i < l.length) :
    ∃ t, (pKey (realEnv d) cfg s key sel).2.getPreEdit (realEnv d) i = .ok t := by
  -- a key sets the composition, then shows `create_suggestion` of it with the caller's index put in (`pKey_eq`)
  have hb : C01.Ascii (keyBuffer s.buffer key) :=
    keyBuffer_all (C01.keycodeToChar_ascii _ _) (r.buffer_all (C01.keycodeToChar_ascii _ _)) key
  -- the memo of a reachable state is the engine's own
  have hs : SoundMemo (realEnv d) s.userAutocorrect s.cache := r.pinv.memo.1
  have hidx : ∀ (sg : Sugg) f, (sg.mapIndex f).getPreEdit (realEnv d) i = sg.getPreEdit (realEnv d) i :=
    fun sg f => by cases sg <;> rfl
  rw [pKey_eq] at hi ⊢
  rw [hidx]
  by_cases he : (keyBuffer s.buffer key).isEmpty = true
  · rw [pRefresh, if_pos he]; exact ⟨[], rfl⟩
  · rw [pRefresh, if_neg he] at hi ⊢
    exact phonetic_preedit_total hd cfg { s with buffer := keyBuffer s.buffer key } hua hs hb i
      fun aux l sel' a h => hi aux l _ a (by rw [h]; rfl)

/-! ### the fixed method under ANSI -/

/-- **fixed method, ANSI on, real dictionary**: if the composed text and the dictionary words are free of the five
    code points, so is every candidate shown (any ordering allowed by `sort_unstable`), hence every pre-edit read-out
    succeeds.  (The composed text itself comes from the layout file: Probhat's AltGr+d types U+09C4, and then the
    read-out of the composed text DOES panic — `fixed_lonely_panics_iff`.) -/
theorem ansi_fixed_candidates_noBad {d : Data} (hdict : ∀ t, ∀ s ∈ d.dictionary t, NoBad s)
    (layouts : String → Option Layout) {sorter : Sorter} (hs : IsSortPerm sorter) (cfg : Cfg) (ha : cfg.ansi = true)
    (s : FState) (hb : NoBad s.buffer) :
    ∀ r ∈ (fDictSuggestion (realWorld d layouts sorter) cfg s).1.suggestions,
      NoBad r.text ∧ ∃ t, Riti.bijoy r.text = .ok t := by
  have hall := fDictSuggestion_all (P := fun c => ¬ BadKar c) (w := realWorld d layouts sorter) (s := s)
    (fun l => (hs l).1) hdict (by decide) (fun h => by rw [ha] at h; cases h) (fun h => by rw [ha] at h; cases h)
    (fun _ => by decide) hb (fun h => by rw [C16.english_masked cfg ha] at h; cases h)
  exact fun r hr => ⟨hall r hr, bijoy_total (hall r hr)⟩

/-- fixed method, suggestions off: reading the composed text back as pre-edit text panics EXACTLY when ANSI is on and
    the composed text contains one of the five code points -/
theorem fixed_lonely_panics_iff (d : Data) (cfg : Cfg) (s : FState) (i : Nat) (e : Panic) :
    (fLonely cfg s).getPreEdit (realEnv d) i = .error e ↔
      (cfg.ansi = true ∧ e = .bijoy ∧ ∃ c ∈ s.buffer, BadKar c) :=
  preedit_single_error_iff d s.buffer cfg.ansi i e

/-! ### instance 2: curly quotes (the remaining side condition of `C17.c17_uncurl_off_partial`) -/

/-- with smart quotes OFF no candidate of the real engine contains a curly quote, provided the data files, the user
    auto-correct values and the typed text contain none -/
theorem suggestList_real_noCurly {d : Data} (hd : DataAll (fun c => c ∉ ['‘', '’', '“', '”']) d) (cfg : Cfg)
    {ua : Store} (hua : StoreAll (fun c => c ∉ ['‘', '’', '“', '”']) ua) {cache : Memo}
    (hm : SoundMemo (realEnv d) ua cache) {term : Str} (ht : NoCurly term) :
    ∀ r ∈ suggestList (realEnv d) (C17.off cfg) cache term, NoCurly r.text :=
  suggestList_real_allC charOk_noCurly hd.text (C17.off cfg) (fun _ => hd) (fun h => by cases h) hua hm ht

/-- **C17 for the real engine, statement of the property** (PARTIAL, same exclusion `RawSame`): the candidate list
    with the option on, curly quotes mapped back to straight ones, IS the list with the option off — all `NoCurly` side
    conditions discharged down to the data files, the user auto-correct values and the typed text -/
theorem c17_uncurl_off_real_partial {d : Data} (hd : DataAll (fun c => c ∉ ['‘', '’', '“', '”']) d) (cfg : Cfg)
    {ua : Store} (hua : StoreAll (fun c => c ∉ ['‘', '’', '“', '”']) ua) {cache : Memo}
    (hm : SoundMemo (realEnv d) ua cache) {term : Str} (ht : NoCurly term)
    (hw : (split term false).word ≠ []) (hraw : C17.RawSame (realEnv d) cfg cache term) :
    (suggestList (realEnv d) (C17.on cfg) cache term).map (uncurl ∘ Rank.text) =
      (suggestList (realEnv d) (C17.off cfg) cache term).map Rank.text :=
  C17.c17_uncurl_off_partial (realEnv d) cfg cache term hw hraw (punct_noCurly_real d term ht).1
    (punct_noCurly_real d term ht).2 (suggestList_real_noCurly hd cfg hua hm ht)

/-! ### instance 3: a character class that separates text from emoji (C07 `EmojiFresh`, C18 `EnglishNotEmoji`)

`C07.c07_nodup_partial` (no candidate text twice) and `C18.emoji_transparent_partial` (deleting the emoji gives the
list computed without emoji tables) carry side conditions that tie the emoji tables to the WHOLE candidate list.  With
the provenance theorem they reduce to the data files: it suffices that some character class `P` contains all text
(dictionary, suffix, auto-correct, user auto-correct, typed characters; what the engine adds itself: `CharOk`) while
every emoji contains a character outside `P`. -/

theorem not_allC_wrap {P : Char → Prop} {s p t : Str} (h : ∃ c ∈ s, ¬ P c) : ¬ AllC P (wrapText p t s) :=
  fun ha => let ⟨c, hc, hn⟩ := h; hn (ha c (by simp [wrapText, hc]))

/-- **the `EmojiFresh` side condition of C07 for the real engine**, from the data files -/
theorem emojiFresh_real {P : Char → Prop} (hP : CharOk P) {d : Data} (hd : TextAll P d) (hmk : EmojiMarked P d)
    (cfg : Cfg) (hq : QuotesOk P cfg) {ua : Store} (hua : StoreAll P ua)
    {cache : Memo} (hm : SoundMemo (realEnv d) ua cache) {term : Str} (ht : AllC P term) :
    C07.EmojiFresh (realEnv d) cfg term (preparedParts (realEnv d) cfg term)
      (dictList (realEnv d) cache (preparedParts (realEnv d) cfg term)) := by
  intro _
  have he := realEnv_all hP hd
  -- the dictionary stage and the typed text are `P` texts, an emoji is not
  have hD : ∀ t ∈ (dictList (realEnv d) cache (preparedParts (realEnv d) cfg term)).map Rank.text, AllC P t :=
    List.forall_mem_map.2 (dictList_all he hP.join (soundMemo_all he hua hm) (preparedParts_all he.conv hq ht))
  refine ⟨fun e hem => ?_, fun _ es hes => ⟨(hmk.emoName _ _ hes).1, fun s hs hmem => ?_⟩⟩
  · obtain ⟨c, hc, hnc⟩ := hmk.emo _ _ hem
    exact ⟨fun hmem => hnc (hD e hmem c hc), fun _ heq => hnc (ht c (heq ▸ hc))⟩
  · exact not_allC_wrap ((hmk.emoName _ _ hes).2 s hs) (hD _ hmem)

/-- **C07 for the real engine: no candidate text occurs twice** — the `EmojiFresh` proviso is discharged -/
theorem c07_nodup_real {P : Char → Prop} (hP : CharOk P) {d : Data} (hd : TextAll P d) (hmk : EmojiMarked P d)
    (cfg : Cfg) (hq : cfg.smartQuote = true → P '‘' ∧ P '’' ∧ P '“' ∧ P '”') {ua : Store} (hua : StoreAll P ua)
    {cache : Memo} (hm : SoundMemo (realEnv d) ua cache) {term : Str} (ht : AllC P term) :
    ((suggestList (realEnv d) cfg cache term).map Rank.text).Nodup :=
  C07.c07_nodup_partial (realEnv d) cfg cache term (emojiFresh_real hP hd hmk cfg hq hua hm ht)

/-- **the `EnglishNotEmoji` side condition of C18 for the real engine**: typed text never equals a (wrapped) emoji -/
theorem englishNotEmoji_real {P : Char → Prop} {d : Data} (hmk : EmojiMarked P d) (cfg : Cfg) {term : Str}
    (ht : AllC P term) : C18.EnglishNotEmoji (realEnv d) cfg term := by
  intro _ es hes hmem
  obtain ⟨s, hs, hst⟩ := List.mem_map.1 hmem
  exact not_allC_wrap ((hmk.emoName _ _ hes).2 s hs) (hst ▸ ht)

/-- **C18 emoji transparency for the real engine**: when the typed text is no emoticon, deleting the emoji candidates
    gives exactly the list computed with both emoji tables switched off — same items, same order; the memo and
    `EnglishNotEmoji` provisos are discharged -/
theorem emoji_transparent_real {P : Char → Prop} {d : Data} (hmk : EmojiMarked P d) (cfg : Cfg) {ua : Store}
    {cache : Memo} (hm : SoundMemo (realEnv d) ua cache) {term : Str} (ht : AllC P term)
    (he : d.emoticon term = none) :
    (suggestList (realEnv d) cfg cache term).filter (fun r => r.variant != .emoji) =
      suggestList (C18.noEmoji (realEnv d)) cfg cache term :=
  C18.emoji_transparent_partial (realEnv d) cfg cache term (memoClean_of_sound hm) he
    (englishNotEmoji_real hmk cfg ht)

/-- a concrete separating class: code points below U+2100 (ASCII, Bengali, ZWJ/ZWNJ, the curly quotes …); the
    engine adds nothing outside it -/
theorem charOk_below2100 : CharOk (fun c => c.toNat < 0x2100) :=
  .of_sweep _ (by decide +kernel) (fun _ _ h => by omega) (by decide)

/-- NUL-freedom of the data files in terms of `DataAll` -/
theorem dataNoNul_of_all {d : Data} (h : DataAll (fun c => c ≠ '\x00') d)
    (hbn : ∀ k l, d.emojiBengali k = some l → ∀ s ∈ l, NoNul s) : DataNoNul d :=
  ⟨fun t s hs => (h.text.dict t s hs).noNul, fun k v hv => (h.text.sfx k v hv).noNul, fun k v hv => (h.text.ac k v hv).noNul,
   fun k v hv => (h.emo k v hv).noNul, fun k l hl s hs => (h.emoName k l hl s hs).noNul, hbn⟩

/-! ## 10. non-vacuity: a tiny data set, run end to end through the real components -/

/-- the text entries of the tiny data set -/
def tinyTexts : List Str := wordsA ++ wordsE ++ ["কে".toList, "amar".toList]

/-- the one value of a map `fun k => if k == a then some v else none` -/
theorem eq_of_ite_some {β : Type} {c : Prop} [Decidable c] {v x : β} (h : (if c then some v else none) = some x) :
    v = x :=
  Option.some.inj (Option.ite_none_right_eq_some.1 h).2

/-- a character predicate holds of the text entries of the tiny data set as soon as it holds of these six texts -/
theorem tiny_textAll {P : Char → Prop} (h : ∀ s ∈ tinyTexts, AllC P s) : TextAll P tiny where
  dict t s hs := by
    simp only [tiny] at hs
    split at hs
    · exact h s (by simp [tinyTexts, hs])
    · split at hs
      · exact h s (by simp [tinyTexts, hs])
      · cases hs
  sfx _ _ hv := eq_of_ite_some hv ▸ h _ (by simp [tinyTexts])
  ac _ _ hv := eq_of_ite_some hv ▸ h _ (by simp [tinyTexts])

/-- … and of the whole data set if it also holds of the two emoji -/
theorem tiny_dataAll {P : Char → Prop} (h : ∀ s ∈ tinyTexts ++ ["😊".toList, "🙋".toList], AllC P s) : DataAll P tiny where
  text := tiny_textAll fun s hs => h s (List.mem_append_left _ hs)
  emo _ _ hv := eq_of_ite_some hv ▸ h _ (by simp)
  emoName _ _ hl s hs := by
    cases eq_of_ite_some hl
    cases List.mem_singleton.1 hs
    exact h _ (by simp)

/-- the data hypotheses of `no_nul_real`, `phonetic_preedit_total` / `ansi_fixed_candidates_noBad` and
    `c17_uncurl_off_real_partial` are satisfiable: the tiny data set is free of U+0000, of the five code points and of
    curly quotes -/
theorem tiny_noNul : DataNoNul tiny :=
  dataNoNul_of_all (tiny_dataAll (by decide +kernel)) (by intro k l h; cases h)
theorem tiny_noBad : TextAll (fun c => ¬ BadKar c) tiny := tiny_textAll (by decide +kernel)
theorem tiny_noCurly : DataAll (fun c => c ∉ ['‘', '’', '“', '”']) tiny := tiny_dataAll (by decide +kernel)

/-- the hypotheses of `c07_nodup_real` / `emoji_transparent_real` are satisfiable: in the tiny data set every text
    character lies below U+2100 and both emoji above -/
theorem tiny_text_below : TextAll (fun c => c.toNat < 0x2100) tiny := tiny_textAll (by decide +kernel)

theorem tiny_emojiMarked : EmojiMarked (fun c => c.toNat < 0x2100) tiny where
  emo _ _ hv := by cases eq_of_ite_some hv; decide +kernel
  emoName _ _ hl := by cases eq_of_ite_some hl; decide +kernel

/-- `c07_nodup_real` applied: the list for `ami` (dictionary hits, an emoji, English item on) has no duplicate -/
example : ((suggestList (realEnv tiny) { includeEnglish := true }
    (memoFill (realEnv tiny) [] [] (word "ami".toList)) "ami".toList).map Rank.text).Nodup :=
  c07_nodup_real charOk_below2100 tiny_text_below tiny_emojiMarked _ (fun _ => by decide) (ua := [])
    storeAll_nil (memoFill_sound _ _ _ _ (soundMemo_nil _ _) (word_idem _)) (by decide +kernel)

/-- … and it is the four-item list: dictionary hit (= the transliteration), emoji, second hit, raw English text -/
example : (suggestList (realEnv tiny) { includeEnglish := true }
    (memoFill (realEnv tiny) [] [] (word "ami".toList)) "ami".toList).map Rank.text =
    ["আমি", "🙋", "এমি", "ami"].map String.toList := by rw [realEnv_tiny]; decide +kernel

def tinyWorld : World := realWorld tiny (fun _ => none) sortStable

/-- what the API returns for a sequence of key presses in a fresh phonetic context (`none`: no context, or a panic) -/
def tinyOuts (cfg : Cfg) (keys : List Nat) : Option (List Out) :=
  match Ctx.new tinyWorld {} cfg "avro_phonetic" with
  | none => none
  | some c =>
    match runFrom tinyWorld c {} (keys.map (fun k => Event.key k 0 0)) with
    | .ok (_, _, os) => some os
    | .error _ => none

/-- a list suggestion from readable strings -/
def full (aux : String) (l : List String) (sel : Nat) (ansi : Bool) : Out :=
  .sugg (.full aux.toList (l.map String.toList) sel ansi)

/-- END TO END, keys `a` `m` `i`, suggestions on: transliterator, regex generator + reader + matcher over the tables
    selected by `a` (a, aa, e, oi, o, nya, y) and the emoji-name table all run inside the kernel.  `am`: the dictionary
    word `আম` coincides with the transliteration (one candidate).  `ami`: `আমি` (dictionary word = transliteration),
    the emoji named `ami`, and `এমি` from table `e` (edit distance 1 → rank 10); `আম` and `আমার` are rejected by the
    expression -/
example : tinyOuts { phoneticSuggestion := true } [41110, 41122, 41118] =
    some [full "a" ["আ"] 0 false, full "am" ["আম"] 0 false, full "ami" ["আমি", "🙋", "এমি"] 0 false] := by
  unfold tinyOuts tinyWorld realWorld; rw [realEnv_tiny]; decide +kernel

/-- the candidate list itself, with its rank classes (memo filled for `ami` as `suggest` does) -/
example : suggestList (realEnv tiny) {} (memoFill (realEnv tiny) [] [] "ami".toList) "ami".toList =
    [Rank.other "আমি".toList 0, Rank.emoji "🙋".toList 1, Rank.other "এমি".toList 10] := by
  rw [realEnv_tiny]; decide +kernel

/-- END TO END, suffix joining: `amike` = `ami` + known suffix `ke`; both dictionary hits of `ami` are offered in
    joined form (the memo entry of `ami` was made on the way) -/
example : (tinyOuts { phoneticSuggestion := true } [41110, 41122, 41118, 41120, 41114]).map (fun l => l.drop 3) =
    some [full "amik" ["আমিক"] 0 false, full "amike" ["আমিকে", "এমিকে"] 0 false] := by
  unfold tinyOuts tinyWorld realWorld; rw [realEnv_tiny]; decide +kernel

/-- END TO END, auto-correct: `amr` ↦ `amar`, shown transliterated before the plain transliteration `আম্র` -/
example : (tinyOuts { phoneticSuggestion := true } [41110, 41122, 41127]).map (fun l => l.drop 2) =
    some [full "amr" ["আমার", "আম্র"] 0 false] := by
  unfold tinyOuts tinyWorld realWorld; rw [realEnv_tiny]; decide +kernel

/-- END TO END, emoticon (`emoticon_offered_real`): keys `:` `)` — the emoji, the literal text, the transliteration -/
example : tinyOuts { phoneticSuggestion := true } [99, 68] =
    some [full ":" ["ঃ"] 0 false, full ":)" ["😊", ":)", "ঃ)"] 0 false] := by
  unfold tinyOuts tinyWorld realWorld; rw [realEnv_tiny]; decide +kernel

/-- END TO END, suggestions off: the single string is the Avro transliteration (C03) -/
example : tinyOuts {} [41110, 41122, 41118] =
    some [.sugg (.single "আ".toList false), .sugg (.single "আম".toList false), .sugg (.single "আমি".toList false)] := by
  decide +kernel

/-- END TO END under ANSI through the real encoder: no emoji item, and the pre-edit texts of the two candidates of
    `ami` are their Bijoy encodings `Avwg`, `Gwg` (no Bengali code point: `preedit_no_bengali_real`) -/
example :
    let sg : Sugg := .full "ami".toList ["আমি".toList, "এমি".toList] 0 true
    (tinyOuts { phoneticSuggestion := true, ansi := true } [41110, 41122, 41118]).map (fun l => l.drop 2) =
      some [.sugg sg] ∧
    sg.getPreEdit (realEnv tiny) 0 = .ok "Avwg".toList ∧ sg.getPreEdit (realEnv tiny) 1 = .ok "Gwg".toList ∧
    sg.getPreEdit (realEnv tiny) 2 = .error .indexOutOfRange := by
  unfold tinyOuts tinyWorld realWorld; rw [realEnv_tiny]; decide +kernel

/-- the panic of `preedit_full_error_iff` is real: a candidate with U+09C4 (vocalic RR sign) under ANSI -/
example : (Sugg.full [] [[Char.ofNat 0x0995, Char.ofNat 0x09C4]] 0 true).getPreEdit (realEnv tiny) 0 = .error .bijoy ∧
    (Sugg.full [] [[Char.ofNat 0x0995, Char.ofNat 0x09C4]] 0 false).getPreEdit (realEnv tiny) 0 =
      .ok [Char.ofNat 0x0995, Char.ofNat 0x09C4] := by decide +kernel

/-- non-vacuity of `c08_sound_real` / `dict_word_offered_real`: `আমি` is a justified candidate for `ami` through the
    dictionary clause — table `aa` is among those selected by the first letter `a` and the word is in the language of the generated
    expression — while `আম` is in the table but NOT in the language -/
example : Justified tiny [] "ami".toList "আমি".toList ∧
    ∃ r, parseAnchored (rxString "ami".toList) = some r ∧ "আম".toList ∈ tiny.dictionary "aa" ∧ ¬ Lang r "আম".toList := by
  obtain ⟨r, hr, h1, h2⟩ := lang_sample ami_sample
  exact ⟨Or.inr ⟨r, "aa", hr, by decide +kernel, by decide +kernel, h1⟩, r, hr, by decide +kernel, h2⟩

/-- … and through the auto-correct clause: `আমার` for `amr` -/
example : Justified tiny [] "amr".toList "আমার".toList :=
  Or.inl ⟨"amar".toList, Or.inr ⟨rfl, by decide +kernel⟩, by decide +kernel⟩

/-- the memo hypothesis (`SoundMemo`) of the C08 / ANSI / C17 theorems holds of the memo the engine builds -/
example : SoundMemo (realEnv tiny) [] (memoFill (realEnv tiny) [] [] (word "ami".toList)) :=
  memoFill_sound _ _ _ _ (soundMemo_nil _ _) (word_idem _)

/-- `phonetic_preedit_total` applied: for the composition `ami` every candidate index of the ANSI list can be read -/
example (i : Nat) (hi : ∀ aux l sel a,
      (pCreateSuggestion (realEnv tiny) { phoneticSuggestion := true, ansi := true } { buffer := "ami".toList }).2 =
        .full aux l sel a → i < l.length) :
    ∃ t, (pCreateSuggestion (realEnv tiny) { phoneticSuggestion := true, ansi := true }
      { buffer := "ami".toList }).2.getPreEdit (realEnv tiny) i = .ok t :=
  phonetic_preedit_total tiny_noBad _ _ storeAll_nil (soundMemo_nil _ _)
    (by show ∀ c ∈ "ami".toList, c.toNat < 128; decide +kernel) i hi

/-- `no_nul_real` applied to the tiny world: whatever sequence of C-interface calls is made -/
example {hp' : Heap} {fs' : FS} {ops : List FfiOp} {os : List FfiOut}
    (hr : ffiRun tinyWorld Heap.empty {} ops = .ok (hp', fs', os)) :
    ∀ h s, alookup hp'.strings h = some s → NoNul s ∧ cView s = s :=
  (no_nul_real tiny_noNul (by intro p l h; cases h) sortStable_perm (by intro t st h; cases h) hr).1

/-- the exclusion of `c17_uncurl_real_partial` is needed for the real engine (finding, cf. `C17.c17_lists_fails_okkhor`):
    typed `"\"` with the English item on — one candidate with the option off, two with it on -/
example :
    let cfg : Cfg := { includeEnglish := true }
    let term : Str := ['"', '\\', '"']
    NoCurly term ∧ (split term false).word ≠ [] ∧
    suggestList (realEnv tiny) (C17.on cfg) [] term = [Rank.last ['“', '\\', '”'] 2, Rank.last ['"', '\\', '"'] 3] ∧
    suggestList (realEnv tiny) (C17.off cfg) [] term = [Rank.last ['"', '\\', '"'] 2] ∧
    ¬ C17.RawSame (realEnv tiny) cfg [] term := by decide +kernel

/-- non-vacuity of `c17_uncurl_off_real_partial`: typed `"ami"`, the hypotheses hold and the lists differ in the quotes -/
example :
    let cfg : Cfg := {}
    let term : Str := "\"ami\"".toList
    let cache := memoFill (realEnv tiny) [] [] (word term)
    NoCurly term ∧ (split term false).word ≠ [] ∧ C17.RawSame (realEnv tiny) cfg cache term ∧
    (suggestList (realEnv tiny) (C17.on cfg) cache term).map Rank.text = ["“আমি”", "“🙋”", "“এমি”"].map String.toList ∧
    (suggestList (realEnv tiny) (C17.off cfg) cache term).map Rank.text =
      ["\"আমি\"", "\"🙋\"", "\"এমি\""].map String.toList := by rw [realEnv_tiny]; decide +kernel

/-- `ansi_fixed_candidates_noBad` applied to the tiny world with the order-by-key sorter: whatever is being composed,
    as long as the composed text is free of the five code points, every candidate's pre-edit text can be read -/
example (s : FState) (hb : NoBad s.buffer) :
    ∀ r ∈ (fDictSuggestion (realWorld tiny (fun _ => none) keySort) { fixedSuggestion := true, ansi := true } s).1.suggestions,
      ∃ t, Riti.bijoy r.text = .ok t :=
  fun r hr => (ansi_fixed_candidates_noBad tiny_noBad.dict _ isSortPerm_keySort _ rfl s hb r hr).2

/-- `pKey_preedit_total` applied: a fresh context over any user files without an auto-correct list, any key -/
example (fs : FS) (hfs : fs.ac = none) (cfg : Cfg) (key sel i : Nat)
    (hi : ∀ aux l sel' a, (pKey (realEnv tiny) cfg (pNew fs) key sel).2 = .full aux l sel' a → i < l.length) :
    ∃ t, (pKey (realEnv tiny) cfg (pNew fs) key sel).2.getPreEdit (realEnv tiny) i = .ok t :=
  pKey_preedit_total tiny_noBad (C05.Reach.new cfg fs)
    (by rw [pNew_userAutocorrect, hfs]; exact storeAll_nil) key sel i hi

/-- type `"ami"`, commit candidate 2, type `"ami"` again: (texts offered, first preselection, store after the commit,
    same list offered again?, second preselection) -/
def driftRun (cfg : Cfg) : (List Str × Nat) × (Store × Bool × Nat) :=
  let s₁ := (pCreateSuggestion (realEnv tiny) cfg { buffer := "\"ami\"".toList }).1
  let s₂ := C09.okState (pCommit cfg s₁ 2)
  let s₃ := (pCreateSuggestion (realEnv tiny) cfg { s₂ with buffer := "\"ami\"".toList }).1
  ((s₁.suggestions.map Rank.text, s₁.prevSelection), (s₂.selections, s₃.suggestions == s₁.suggestions, s₃.prevSelection))

/-- C09's `StripStable` proviso speaks about the committed candidate, not about `Env`, and it cannot be discharged
    for the real engine: the KNOWN FINDING `C09.curly_value_not_recalled` (smart-quote / learning drift) reproduced with
    the real components.  Smart quotes on, typed `"ami"`, the user commits the third candidate `“এমি”`: the stored
    value keeps the curly quotes, so typing `"ami"` again preselects index 0 although the very same list is offered.
    With smart quotes off the same scenario recalls index 2 (`C09.c09_recall_same_candidate` applies) -/
example :
    driftRun { phoneticSuggestion := true } =
      ((["“আমি”", "“🙋”", "“এমি”"].map String.toList, 0), ([("ami".toList, "“এমি”".toList)], true, 0)) ∧
    driftRun { phoneticSuggestion := true, smartQuote := false } =
      ((["\"আমি\"", "\"🙋\"", "\"এমি\""].map String.toList, 0), ([("ami".toList, "এমি".toList)], true, 2)) ∧
    (split (wrapText ['“'] ['”'] "এমি".toList) true).word ≠ "এমি".toList ∧
    (split (wrapText ['"'] ['"'] "এমি".toList) true).word = "এমি".toList := by
  unfold driftRun; rw [realEnv_tiny]; decide +kernel

end Riti.Real
