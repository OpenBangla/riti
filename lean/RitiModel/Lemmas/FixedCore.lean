/-
Lemmas/FixedCore — `process_key_value` reads and writes two fields of the state only: the composed
text and the waiting sign.  `pkvCore` is `pkvBody` on that pair, split by the kind of value (`pkvZofola`,
`pkvKar`, `pkvOther`, and `pushValue` when no special case applies); `pkvBody_eq` says so, once.  What
holds of every key value is then proved about `pkvCore` (the list last built is dead data: Lemmas/FixedStale;
NUL-freedom: Lemmas/NoNulFixed; the shape with the old vowel-sign order off: Lemmas/Fixed), what one key does
about the branch it takes (Lemmas/KarOrder).  Last, the state change of a key press (`fKeyState_eq`) and of a
backspace (`fBackspaceState_spec`), each in one equation per field.
-/
import RitiModel.Model.Fixed
import RitiModel.Lemmas.Logic
namespace Riti

/-! ### `process_key_value` on the composed text and the waiting sign -/

def FState.put (s : FState) (e : Str × Option Char) : FState := { s with rbuf := e.1, pending := e.2 }

/-- the code after the `if let Some(character)` block of `process_key_value`: the value is appended, and a
    waiting sign is put after it unless the value ends in a hasanta -/
def pushValue (cfg : Cfg) (rbuf : Str) (pending : Option Char) (value : Str) : Str × Option Char :=
  if cfg.fixedKarOrder then
    match pending with
    | some lsk =>
      if value.getLast? == some cHasanta then (pushStr rbuf value, pending)
      else (lsk :: pushStr rbuf value, none)
    | none => (pushStr rbuf value, pending)
  else (pushStr rbuf value, pending)

/-- where the zo-fola key puts a ZWJ: directly after a র that is not itself joined by a hasanta -/
def zwjBefore (u : Str) : Str :=
  if u.headD '\x00' == cR && (u.drop 1).headD '\x00' != cHasanta then cZWJ :: u else u

/-- the zo-fola key: hasanta + য are appended, or slipped under a left-standing sign -/
def pkvZofola (cfg : Cfg) (rbuf : Str) (pending : Option Char) (value : Str) : Str × Option Char :=
  if cfg.fixedKarOrder && isLeftStandingKar (rbuf.headD '\x00') then
    match zwjBefore rbuf with
    | kar :: rest => (kar :: pushStr rest value, pending)
    | [] => (pushStr (zwjBefore rbuf) value, pending)
  else (pushStr (zwjBefore rbuf) value, pending)

/-- a value that starts with the sign `character`; `again rbuf` stands for the recursive call (that text,
    nothing waiting) -/
def pkvKar (again : Str → Str × Option Char) (cfg : Cfg) (rbuf : Str) (pending : Option Char) (character : Char) :
    Str × Option Char :=
  let rmc := rbuf.headD '\x00'
  if cfg.fixedKarOrder then
    if rmc != cHasanta && isLeftStandingKar character then (rbuf, toPending character)
    else if rmc == cEKar && (character == cAAKar || character == cOUKar) then
      ((if character == cAAKar then cOKar else cOUKar) :: rbuf.drop 1, pending)
    else
      match pending with
      | some lsk =>
        if rmc == cHasanta then (karTail cfg (cHasanta :: lsk :: rbuf.drop 1) rmc character, none)
        else
          again (if cfg.fixedVowel && autoVowelPos rbuf rmc
            then (match karToVowel lsk with | some v => v :: rbuf | none => rbuf) else rbuf)
      | none => (karTail cfg rbuf rmc character, pending)
  else (karTail cfg rbuf rmc character, pending)

/-- a value that starts with `character`, which is no sign: the special cases of hasanta and length mark -/
def pkvOther (cfg : Cfg) (rbuf : Str) (pending : Option Char) (value : Str) (character : Char) : Str × Option Char :=
  let rmc := rbuf.headD '\x00'
  if character == cHasanta && rmc == cHasanta then (cZWNJ :: rbuf, pending)
  else if character == cLengthMark && rmc == cHasanta then (cOU :: rbuf.drop 1, pending)
  else if cfg.fixedKarOrder && character == cHasanta && isLeftStandingKar rmc then
    if value.length == 1 then (character :: rbuf.drop 1, toPending rmc)
    else
      match rbuf with
      | kar :: rest => (kar :: pushStr rest value, pending)
      | [] => (rbuf, pending)
  else if cfg.fixedKarOrder && rmc == cEKar && character == cLengthMark then (cOUKar :: rbuf.drop 1, pending)
  else pushValue cfg rbuf pending value

/-- `pkvBody` on the composed text and the waiting sign: the value decides the branch -/
def pkvCore (again : Str → Str × Option Char) (cfg : Cfg) (rbuf : Str) (pending : Option Char) (value : Str) :
    Str × Option Char :=
  if value == zoFola then pkvZofola cfg rbuf pending value
  else if value == rephValue && cfg.fixedOldReph then (insertOldStyleReph rbuf, pending)
  else
    match value.head? with
    | none => pushValue cfg rbuf pending value
    | some character =>
      if isKar character then pkvKar again cfg rbuf pending character else pkvOther cfg rbuf pending value character

/-- `process_key_value` on the composed text and the waiting sign, in the shape of `processKeyValue`: the
    recursive call is made with nothing waiting, so it never reaches its own, which `(·, none)` stands for -/
def pkvPair (cfg : Cfg) (rbuf : Str) (pending : Option Char) (value : Str) : Str × Option Char :=
  pkvCore (fun rb => pkvCore (·, none) cfg rb none value) cfg rbuf pending value

/-! ### which branch a value takes -/

section
variable {again : Str → Str × Option Char} {cfg : Cfg} {rbuf value : Str} {pending : Option Char} {c : Char}

theorem pkvCore_zoFola : pkvCore again cfg rbuf pending zoFola = pkvZofola cfg rbuf pending zoFola :=
  if_pos (beq_self_eq_true _)

theorem pkvCore_reph (hon : cfg.fixedOldReph = true) :
    pkvCore again cfg rbuf pending rephValue = (insertOldStyleReph rbuf, pending) := by
  rw [pkvCore, if_neg (by decide), if_pos (by rw [hon]; rfl)]

theorem not_reph (hr : cfg.fixedOldReph = false ∨ value ≠ rephValue) : ¬ (value == rephValue && cfg.fixedOldReph) = true := by
  rcases hr with hr | hr <;> simp [hr]

theorem pkvCore_head (hz : value ≠ zoFola) (hr : cfg.fixedOldReph = false ∨ value ≠ rephValue)
    (hh : value.head? = some c) :
    pkvCore again cfg rbuf pending value =
      if isKar c then pkvKar again cfg rbuf pending c else pkvOther cfg rbuf pending value c := by
  rw [pkvCore, if_neg (by simpa using hz), if_neg (not_reph hr), hh]

theorem pkvCore_kar (hk : isKar c = true) : pkvCore again cfg rbuf pending [c] = pkvKar again cfg rbuf pending c := by
  rw [pkvCore_head (by simp [zoFola]) (.inr (by simp [rephValue])) rfl, if_pos hk]

/-- a sign key: the recursive call is on the same key with nothing waiting -/
theorem pkvPair_kar (hk : isKar c = true) :
    pkvPair cfg rbuf pending [c] = pkvKar (fun rb => pkvKar (·, none) cfg rb none c) cfg rbuf pending c := by
  rw [pkvPair, pkvCore_kar hk]
  exact congrArg (pkvKar · cfg rbuf pending c) (funext fun _ => pkvCore_kar hk)

theorem pkvCore_other (hz : value ≠ zoFola) (hr : cfg.fixedOldReph = false ∨ value ≠ rephValue)
    (hh : value.head? = some c) (hk : isKar c = false) :
    pkvCore again cfg rbuf pending value = pkvOther cfg rbuf pending value c := by
  rw [pkvCore_head hz hr hh, if_neg (by rw [hk]; exact Bool.false_ne_true)]
end

/-! ### no special case applies: the value is appended -/

section
variable {cfg : Cfg} {rbuf value : Str} {pending : Option Char}

theorem pushValue_idle (hp : cfg.fixedKarOrder = true → pending = none) :
    pushValue cfg rbuf pending value = (pushStr rbuf value, pending) := by
  unfold pushValue
  split
  · next h => cases hp h; rfl
  · rfl

theorem pushValue_hasanta (hl : value.getLast? = some cHasanta) :
    pushValue cfg rbuf pending value = (pushStr rbuf value, pending) := by
  unfold pushValue
  cases pending <;> simp [hl]

theorem pushValue_waiting (hon : cfg.fixedKarOrder = true) {k : Char} (hl : value.getLast? ≠ some cHasanta) :
    pushValue cfg rbuf (some k) value = (k :: pushStr rbuf value, none) := by
  simp [pushValue, hon, hl]

/-- The value is appended (`pushValue`) when it is neither the zo-fola nor the old-style reph key, does not
    start with a sign and, if it starts with a hasanta or the length mark, the text ends neither in a hasanta
    nor (old vowel-sign order) in a left-standing sign: these are all the special cases there are. -/
theorem pkvCore_push (again : Str → Str × Option Char) (hz : value ≠ zoFola)
    (hr : cfg.fixedOldReph = false ∨ value ≠ rephValue)
    (hv : ∀ c, value.head? = some c → isKar c = false ∧ ((c == cHasanta || c == cLengthMark) = true →
      (rbuf.headD '\x00' == cHasanta) = false ∧
      (cfg.fixedKarOrder = true → isLeftStandingKar (rbuf.headD '\x00') = false))) :
    pkvCore again cfg rbuf pending value = pushValue cfg rbuf pending value := by
  cases hh : value.head? with
  | none => rw [pkvCore, if_neg (by simpa using hz), if_neg (not_reph hr), hh]
  | some c =>
    obtain ⟨hk, hs⟩ := hv c hh
    rw [pkvCore_other hz hr hh hk]
    cases hc : (c == cHasanta || c == cLengthMark) with
    | false =>
      obtain ⟨e1, e2⟩ := Bool.or_eq_false_iff.mp hc
      simp only [pkvOther, e1, e2, Bool.and_false, Bool.false_and, Bool.false_eq_true, if_false]
    | true =>
      obtain ⟨e1, e2⟩ := hs hc
      cases hko : cfg.fixedKarOrder with
      | false => simp only [pkvOther, hko, e1, Bool.and_false, Bool.false_and, Bool.false_eq_true, if_false]
      | true =>
        -- ে is a left-standing sign
        have e3 : (rbuf.headD '\x00' == cEKar) = false :=
          Bool.eq_false_iff.mpr fun h => by rw [eq_of_beq h] at e2; exact absurd (e2 hko) (by decide)
        simp only [pkvOther, e1, e2 hko, e3, Bool.and_false, Bool.false_and, Bool.false_eq_true, if_false]

theorem pkvCore_push_plain (again : Str → Str × Option Char) (hz : value ≠ zoFola)
    (hr : cfg.fixedOldReph = false ∨ value ≠ rephValue)
    (hv : ∀ c, value.head? = some c → isKar c = false ∧ (c == cHasanta) = false ∧ (c == cLengthMark) = false) :
    pkvCore again cfg rbuf pending value = pushValue cfg rbuf pending value :=
  pkvCore_push again hz hr fun c hc => ⟨(hv c hc).1, fun h => by simp [(hv c hc).2.1, (hv c hc).2.2] at h⟩
end

/-! `FState.put s` goes through a `match` of `pkvBody` (through an `if` by `ite_app`) -/
section
variable {s : FState} {b : Str × Option Char}

theorem list_put {l : Str} {f : Char → Str → FState} {y : FState} {f' : Char → Str → Str × Option Char}
    (h1 : ∀ k r, f k r = s.put (f' k r)) (h2 : y = s.put b) :
    (match l with | k :: r => f k r | [] => y) = s.put (match l with | k :: r => f' k r | [] => b) := by
  cases l
  · exact h2
  · exact h1 _ _

theorem option_put {o : Option Char} {f : Char → FState} {y : FState} {f' : Char → Str × Option Char}
    (h1 : ∀ k, f k = s.put (f' k)) (h2 : y = s.put b) :
    (match o with | some k => f k | none => y) = s.put (match o with | some k => f' k | none => b) := by
  cases o
  · exact h2
  · exact h1 _
end

/-- `pkvBody` changes the composed text and the waiting sign as `pkvCore` says and nothing else, provided the
    recursive call does.  Each step takes `FState.put s` through one case distinction of `pkvBody`; every leaf
    holds by `rfl`. -/
theorem pkvBody_eq (recur : FState → FState) (again : Str → Str × Option Char) (cfg : Cfg) (s : FState)
    (value : Str) (h : ∀ rb, recur (s.put (rb, none)) = s.put (again rb)) :
    pkvBody recur cfg s value = s.put (pkvCore again cfg s.rbuf s.pending value) := by
  unfold pkvBody pkvCore pkvZofola pkvKar pkvOther
  refine ite_app (fun _ => ?_) (fun _ => ?_)
  · exact ite_app (fun _ => list_put (fun _ _ => rfl) rfl) (fun _ => rfl)
  refine ite_app (fun _ => rfl) (fun _ => ?_)
  extract_lets fallthrough
  have hft : fallthrough s = s.put (pushValue cfg s.rbuf s.pending value) :=
    ite_app (fun _ => option_put (fun _ => ite_app (fun _ => rfl) (fun _ => rfl)) rfl) (fun _ => rfl)
  cases value.head? with
  | none => exact hft
  | some character =>
    refine ite_app (fun _ => ?_) (fun _ => ?_)
    · refine ite_app (fun _ => ?_) (fun _ => rfl)
      refine ite_app (fun _ => rfl) (fun _ => ite_app (fun _ => rfl) (fun _ => ?_))
      exact option_put (fun lsk => ite_app (fun _ => rfl) (fun _ => h _)) rfl
    refine ite_app (fun _ => rfl) (fun _ => ite_app (fun _ => rfl) (fun _ => ite_app (fun _ => ?_) (fun _ => ?_)))
    · exact ite_app (fun _ => rfl) (fun _ => list_put (fun _ _ => rfl) rfl)
    · exact ite_app (fun _ => rfl) (fun _ => hft)

theorem processKeyValue_eq (cfg : Cfg) (s : FState) (value : Str) :
    processKeyValue cfg s value = s.put (pkvPair cfg s.rbuf s.pending value) :=
  pkvBody_eq _ _ cfg s value fun rb => pkvBody_eq id (·, none) cfg (s.put (rb, none)) value fun _ => rfl

/-! ### a key press: `process_key_value`, then the raw-key log -/

/-- the raw-key log after a key that left the state `s'`: dropped when nothing is being composed, extended by the
    key's own character when suggestions are on -/
def keyTyped (cfg : Cfg) (key : Nat) (s' : FState) : Str :=
  if s'.rbuf.isEmpty && s'.pending.isNone then []
  else if cfg.fixedSuggestion then
    match keycodeToChar key with
    | some ch => ch :: s'.rtyped
    | none => s'.rtyped
  else s'.rtyped

theorem fKeyState_eq (layout : Layout) (cfg : Cfg) (s : FState) (key modifier : Nat) :
    fKeyState layout cfg s key modifier =
      (getCharForKey layout key (getModifiers modifier) cfg.fixedNumpad).map fun value =>
        { processKeyValue cfg s value with rtyped := keyTyped cfg key (processKeyValue cfg s value) } := by
  unfold fKeyState keyTyped
  cases getCharForKey layout key (getModifiers modifier) cfg.fixedNumpad with
  | none => rfl
  | some value =>
    let F : Str → Option FState := fun t => some { processKeyValue cfg s value with rtyped := t }
    exact ite_app (f := F) (fun _ => rfl) fun _ =>
      ite_app (f := F) (fun _ => by cases keycodeToChar key <;> rfl) fun _ => rfl

/-! ### backspace -/

/-- `backspace_event`, field by field.  The text is cleared (ctrl), kept (a waiting sign is what goes) or loses its
    last code point; nothing is waiting afterwards; the flag says whether text is left; the raw-key log loses its
    last key, or is dropped when the session ends here, or is left alone when there was none. -/
theorem fBackspaceState_spec (s : FState) (ctrl : Bool) :
    (fBackspaceState s ctrl).1.rbuf = (if ctrl then [] else if s.pending.isSome then s.rbuf else s.rbuf.drop 1) ∧
    (fBackspaceState s ctrl).1.pending = none ∧
    (fBackspaceState s ctrl).2 = !(fBackspaceState s ctrl).1.rbuf.isEmpty ∧
    (fBackspaceState s ctrl).1.rtyped =
      (if (fBackspaceState s ctrl).2 then s.rtyped.drop 1 else if fOngoing s then [] else s.rtyped) ∧
    (fBackspaceState s ctrl).1.suggestions = s.suggestions := by
  rcases s with ⟨rbuf, rtyped, pending, sg⟩
  cases ctrl <;> cases pending <;> rcases rbuf with _ | ⟨_, _ | _⟩ <;> exact ⟨rfl, rfl, rfl, rfl, rfl⟩

theorem fBackspaceState_ctrl {s : FState} (h : s.rbuf ≠ []) : fBackspaceState s true = (fClear s, false) := by
  rw [fBackspaceState, if_pos (by simpa using h)]; rfl

end Riti
