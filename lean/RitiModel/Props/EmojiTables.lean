/-
Props/EmojiTables — C18 on the REAL tables of the bundled `emojicon` crate.

The theorems of Props/C18 and Props/RealEnv hold for every emoticon / emoji-name table (`Env.emoticon`,
`Env.emojiByName`, `Env.emojiBengali` are parameters).  C18 itself speaks about "any emoticon of the bundled emoticon
table" and "any English / Bengali emoji name".  Here the parameters are instantiated with the tables the translator reads
from the crate's SOURCE on every run (`Gen/EmojiTables.lean`; look-ups `Model/EmojiTables.lean`), which the trace validator
compares entry by entry with the tables the COMPILED crate serves (`MISMATCH emoji-table …`).

 1. shape of the tables, checked in the kernel on the generated rows: sizes, every code point a scalar value other than
    U+0000 and the curly quotes (`rows_ok`, `ok_text`), no key twice (so the `HashMap` keeps every row and "last duplicate
    wins" never applies), the look-ups characterised (`emoticon_serves`, … with `Serves.iff`, `Serves.found`).
 2. what can be typed: every emoticon is printable ASCII and every printable ASCII character has a published key
    (`emoticons_typeable`); the same for the English names except `life preserver` (a space) (`names_typeable_except`);
    which names are never looked up because `split` takes their punctuation away (`names_never_looked_up`: `!`, `+1`, `-1`;
    Bengali: `#`, `*`) — the known finding `name-with-punctuation-not-looked-up`.
 3. sizes of the emoji lists (`emoji_lists_small`): English ≤ 8 (`workout`), Bengali ≤ 10 and exactly one name above the
    room of the fixed method's list (`হৃদয়`, 10) — the known finding `bengali-name-more-emoji-than-list-room`.
 4. `no_nul_no_curly_in_tables`, `no_nul_no_curly_in_keys` (the C19 / C17 provisos on the emoji part of the data),
    `emoticon_is_not_emoji_name_except` (the 10 emoticons whose word part is an English emoji name),
    `no_name_is_an_emoticon`.
 5. the instantiation: `tableEnv`, `tableData`, `emoticon_offered_table(_real)`, `names_offered_table(_bare)(_real)`,
    `names_exact_table`, the fixed-method partial theorems `emoticon_offered_fixed_table_partial`,
    `names_offered_fixed_table_partial`, `heart_never_complete`, and the data provisos of RealEnv discharged for the
    emoji part (`dataNoNul_tableData`, `dataAll_noCurly_tableData`, `emojiMarked_tableData`).
 6. non-vacuity: rows of the real table run end to end through the real components in the kernel.

NOT covered: whether a BENGALI name can be typed (that depends on the layout file, a parameter; the harness types them
through Probhat by the inverse key map and counts the untypeable ones).
-/
import RitiModel.Lemmas.EmojiTablesFacts
import RitiModel.Lemmas.PhoneticStep
import RitiModel.Lemmas.Quotes
import RitiModel.Lemmas.RealEnv
import RitiModel.Props.C18
namespace Riti.EmojiTables
open Riti Riti.Gen Riti.Real

abbrev chars (l : List Nat) : Str := natsToChars l

/-! ## 1. shape of the tables -/

/-- the tables the check was built with: 321 emoticons, 1 389 English names (the crate's `custom` table, emoji.rs —
    the file `Emojicon::new` selects under the feature riti asks for), 1 007 Bengali names -/
theorem table_sizes : emoticonRows.length = 321 ∧ emojiNameRows.length = 1389 ∧ bengaliNameRows.length = 1007 ∧
    emojiNameSource = "emoji.rs" ∧ emojiconFeatures.contains "custom" = true := by decide +kernel

/-- a text made of code points passing `okCode`: scalar values, no U+0000, no curly quote -/
theorem ok_text {l : List Nat} (h : ∀ n ∈ l, okCode n = true) : validCodes l = true ∧ NoNul (chars l) ∧ NoCurly (chars l) := by
  have key : ∀ c ∈ chars l, c.toNat ≠ 0 ∧ c.toNat ≠ 0x2018 ∧ c.toNat ≠ 0x2019 ∧ c.toNat ≠ 0x201C ∧ c.toNat ≠ 0x201D := by
    intro c hc
    obtain ⟨n, hn, rfl⟩ := List.mem_map.mp hc
    rw [toNat_ofNat_of_valid (okCode_spec (h n hn)).1]
    exact (okCode_spec (h n hn)).2
  refine ⟨List.all_eq_true.mpr fun n hn => decide_eq_true (okCode_spec (h n hn)).1, fun h0 => (key _ h0).1 rfl, fun c hc hm => ?_⟩
  have := key c hc
  simp only [List.mem_cons, List.not_mem_nil, or_false] at hm
  rcases hm with rfl | rfl | rfl | rfl <;> simp at this

/-- every key and every emoji of the three tables is such a text -/
theorem rows_ok :
    (∀ row ∈ emoticonRows, (∀ n ∈ row.1, okCode n = true) ∧ ∀ n ∈ row.2, okCode n = true) ∧
    (∀ row ∈ emojiNameRows, (∀ n ∈ row.1, okCode n = true) ∧ ∀ e ∈ row.2, ∀ n ∈ e, okCode n = true) ∧
    (∀ row ∈ bengaliNameRows, (∀ n ∈ row.1, okCode n = true) ∧ ∀ e ∈ row.2, ∀ n ∈ e, okCode n = true) := by
  simpa only [List.all_eq_true, Bool.and_eq_true] using codes_ok

/-- `get_by_emoticon` is the look-up in the emoticon table, which has no emoticon twice: the `HashMap` holds all 321 rows -/
theorem emoticon_serves : Serves emoticonLookup emoticonRows natsToChars :=
  ⟨fun _ => rfl, nodup_of_keysOk keys_ok.1, fun row h => (ok_text (rows_ok.1 row h).1).1⟩

/-- `get_by_name` is the look-up in the English table (no name twice, 1 389 keys), the emoji in the order of the row -/
theorem emoji_name_serves : Serves emojiNameLookup emojiNameRows (fun l => l.map natsToChars) :=
  ⟨fun _ => rfl, nodup_of_keysOk keys_ok.2.1, fun row h => (ok_text (rows_ok.2.1 row h).1).1⟩

/-- `BengaliEmoji::get` is the look-up in the Bengali table (no name twice, 1 007 keys), the emoji in the order of the row -/
theorem bengali_name_serves : Serves bengaliNameLookup bengaliNameRows (fun l => l.map natsToChars) :=
  ⟨fun _ => rfl, nodup_of_keysOk keys_ok.2.2, fun row h => (ok_text (rows_ok.2.2 row h).1).1⟩

/-- so "the last row with the key" is "the first row with the key": the order in which the crate fills its `HashMap`
    does not matter for any of the three tables -/
theorem lookups_first_eq_last (s : Str) :
    emoticonLookup s = (alookup emoticonRows (codesOf s)).map natsToChars ∧
    emojiNameLookup s = (alookup emojiNameRows (codesOf s)).map (fun l => l.map natsToChars) ∧
    bengaliNameLookup s = (alookup bengaliNameRows (codesOf s)).map (fun l => l.map natsToChars) :=
  ⟨emoticon_serves.first s, emoji_name_serves.first s, bengali_name_serves.first s⟩

/-! ## 2. what can be typed, what is looked up -/

theorem printable_iff {c : Nat} : printable c = true ↔ 33 ≤ c ∧ c ≤ 126 := by
  simp [printable, Nat.ble_eq]

/-- every printable ASCII character (33 … 126) is produced by a key code published in riti.h (regenerated key table) -/
theorem printable_has_key {c : Nat} (hp : printable c = true) : ∃ k ∈ vcHeader, alookup keyChar k = some c := by
  obtain ⟨h1, h2⟩ := printable_iff.mp hp
  have hc := List.all_eq_true.mp printable_keys_ok.2.1 c (List.mem_range'_1.mpr ⟨h1, by omega⟩)
  obtain ⟨⟨k, c'⟩, hm, rfl⟩ := List.mem_map.mp (testBit_maskOf.mp hc)
  obtain ⟨hmem, hk⟩ := List.mem_filter.mp hm
  have hd : (keyChar.map Prod.fst).Nodup := nodup_of_distinctN printable_keys_ok.1
  exact ⟨k, testBit_maskOf.mp hk, AList.alookup_of_mem_nodup hd hmem⟩

/-- no published key code produces a space through `keycode_to_char` (no key code at all does) -/
theorem space_has_no_key : ∀ k ∈ vcHeader, alookup keyChar k ≠ some 32 := by
  intro k _ h
  have := memN_iff.mpr (List.mem_map_of_mem (f := Prod.snd) (AList.alookup_mem_pair h))
  rw [printable_keys_ok.2.2] at this
  cases this

/-- **every emoticon of the table can be typed**: each of its characters is printable ASCII and is produced by a published
    key code, so "typing any emoticon" ranges over the whole table (321 rows) -/
theorem emoticons_typeable : ∀ row ∈ emoticonRows, ∀ c ∈ row.1, (33 ≤ c ∧ c ≤ 126) ∧ ∃ k ∈ vcHeader, alookup keyChar k = some c := by
  intro row hrow c hc
  have hp := List.all_eq_true.mp (List.all_eq_true.mp emoticons_printable_ok row hrow) c hc
  exact ⟨printable_iff.mp hp, printable_has_key hp⟩

/-- … in the form of the model's key function: a key code whose `keycode_to_char` is that character -/
theorem emoticons_typeable_keys : ∀ row ∈ emoticonRows, ∀ c ∈ chars row.1, ∃ k ∈ vcHeader, keycodeToChar k = some c := by
  intro row hrow c hc
  obtain ⟨n, hn, rfl⟩ := List.mem_map.mp hc
  obtain ⟨k, hk, hkc⟩ := (emoticons_typeable row hrow n hn).2
  exact ⟨k, hk, by simp [keycodeToChar, hkc]⟩

/-- **every English emoji name except `life preserver` can be typed** (1 388 of 1 389) -/
theorem names_typeable_except : ∀ row ∈ emojiNameRows, row.1 ≠ [108, 105, 102, 101, 32, 112, 114, 101, 115, 101, 114, 118, 101, 114] →
    ∀ c ∈ row.1, ∃ k ∈ vcHeader, alookup keyChar k = some c := by
  intro row hrow hne c hc
  by_cases hp : row.1.all printable = true
  · exact printable_has_key (List.all_eq_true.mp hp c hc)
  · have := (mem_iff_of_filter_eq names_not_printable_ok).mpr ⟨hrow, by simpa using hp⟩
    exact absurd (by rw [List.mem_singleton.mp this]) hne

/-- `life preserver` is a row; it contains a space, which no published key produces: it cannot be typed into a word -/
theorem life_preserver_untypeable :
    (([108, 105, 102, 101, 32, 112, 114, 101, 115, 101, 114, 118, 101, 114], [[128735]]) : List Nat × List (List Nat)) ∈ emojiNameRows ∧
    (32 ∈ [108, 105, 102, 101, 32, 112, 114, 101, 115, 101, 114, 118, 101, 114]) ∧ ∀ k ∈ vcHeader, alookup keyChar k ≠ some 32 :=
  ⟨((mem_iff_of_filter_eq names_not_printable_ok).mp (List.mem_singleton.mpr rfl)).1, by decide, space_has_no_key⟩

/-- every English name other than `!`, `+1`, `-1` is split into itself: typed bare it is looked up as itself -/
theorem names_split_self_except : ∀ row ∈ emojiNameRows, row.1 ∉ [[33], [43, 49], [45, 49]] →
    split (chars row.1) false = ⟨[], chars row.1, []⟩ := by
  intro row hrow hne
  apply split_self_of_edges (emoji_name_serves.valid row hrow)
  cases he : edgesPlain row.1
  · exact absurd (List.mem_map_of_mem (f := Prod.fst) ((mem_iff_of_filter_eq names_edges_ok).mpr ⟨hrow, by rw [he]; rfl⟩)) hne
  · rfl

/-- **the emoji of `!`, `+1`, `-1` are never offered by name**: no typed text whatsoever has one of them as its word part,
    so `get_by_name` is never asked for them (known finding `name-with-punctuation-not-looked-up`) -/
theorem names_never_looked_up (env : Env) (cfg : Cfg) : ∀ k ∈ [[33], [43, 49], [45, 49]], ∀ term : Str,
    (preparedParts env cfg term).word ≠ chars k := by
  intro k hk term
  rw [preparedParts_word]
  apply nonfix_never_key
  simp only [List.mem_cons, List.not_mem_nil, or_false] at hk
  rcases hk with rfl | rfl | rfl <;> decide

/-- the Bengali names whose first or last character is punctuation: `#`, `*` (keycap emoji); the fixed method's `split`
    takes them as punctuation, so they are not looked up either -/
theorem bengali_names_split_away_exactly :
    bengaliNameRows.filter (fun r => !(edgesPlain r.1)) =
      [([35], [[35, 65039, 8419]]), ([42], [[42, 65039, 8419]])] := by
  simp only [edgesPlain_eq]
  decide +kernel

/-! ## 3. sizes of the emoji lists -/

/-- **sizes of the emoji lists**: every English name lists between 1 and 8 emoji (8 only for `workout`); every Bengali
    name between 1 and 10; the fixed method has room for 8 emoji (7 with the raw English item): exactly ONE Bengali name
    lists more than 7, `হৃদয়` with 10 (known finding `bengali-name-more-emoji-than-list-room`) -/
theorem emoji_lists_small :
    emojiNameRows.all (fun r => Nat.ble 1 r.2.length && Nat.ble r.2.length 8) = true ∧
    emojiNameRows.filter (fun r => Nat.blt 7 r.2.length) =
      [([119, 111, 114, 107, 111, 117, 116], [[128166], [128170], [127939], [127939, 8205, 9794, 65039], [127939, 8205, 9792, 65039],
        [127947, 65039], [127947, 65039, 8205, 9794, 65039], [127947, 65039, 8205, 9792, 65039]])] ∧
    bengaliNameRows.all (fun r => Nat.ble 1 r.2.length && Nat.ble r.2.length 10) = true ∧
    bengaliNameRows.filter (fun r => Nat.blt 7 r.2.length) =
      [([2489, 2499, 2470, 2527], [[9829], [10083], [10084], [128147], [128148], [128150], [128151], [128152], [128157], [128420]])] :=
  by decide +kernel

/-- every English name lists at most 8 emoji -/
theorem english_list_le_8 : ∀ row ∈ emojiNameRows, 1 ≤ row.2.length ∧ row.2.length ≤ 8 := by
  intro row h
  simpa [Nat.ble_eq] using List.all_eq_true.mp emoji_lists_small.1 row h

/-- every Bengali name other than `হৃদয়` lists at most 7 emoji: they fit the fixed method's list even with the raw English item -/
theorem bengali_list_le_7_except : ∀ row ∈ bengaliNameRows, row.1 ≠ [2489, 2499, 2470, 2527] → 1 ≤ row.2.length ∧ row.2.length ≤ 7 := by
  intro row hrow hne
  have h1 : 1 ≤ row.2.length ∧ row.2.length ≤ 10 := by simpa [Nat.ble_eq] using List.all_eq_true.mp emoji_lists_small.2.2.1 row hrow
  refine ⟨h1.1, Nat.le_of_not_lt fun hgt => hne ?_⟩
  rw [List.mem_singleton.mp ((mem_iff_of_filter_eq emoji_lists_small.2.2.2).mpr ⟨hrow, by simpa [Nat.blt_eq] using hgt⟩)]

/-! ## 4. the characters of the tables -/

/-- **no text the tables can answer contains U+0000 or a curly quote** (the emoji part of C19's `NoNulEnv` / `DataNoNul`
    premises and of C17's `NoCurly` proviso) -/
theorem no_nul_no_curly_in_tables :
    (∀ k v, emoticonLookup k = some v → NoNul v ∧ NoCurly v) ∧
    (∀ k l, emojiNameLookup k = some l → ∀ s ∈ l, NoNul s ∧ NoCurly s) ∧
    (∀ k l, bengaliNameLookup k = some l → ∀ s ∈ l, NoNul s ∧ NoCurly s) := by
  refine ⟨fun k v h => ?_, fun k l h s hs => ?_, fun k l h s hs => ?_⟩
  · obtain ⟨row, hrow, -, rfl⟩ := emoticon_serves.iff.mp h
    exact (ok_text (rows_ok.1 row hrow).2).2
  · obtain ⟨row, hrow, -, rfl⟩ := emoji_name_serves.iff.mp h
    obtain ⟨e, he, rfl⟩ := List.mem_map.mp hs
    exact (ok_text ((rows_ok.2.1 row hrow).2 e he)).2
  · obtain ⟨row, hrow, -, rfl⟩ := bengali_name_serves.iff.mp h
    obtain ⟨e, he, rfl⟩ := List.mem_map.mp hs
    exact (ok_text ((rows_ok.2.2 row hrow).2 e he)).2

/-- neither do the KEYS of the tables (emoticons and names) -/
theorem no_nul_no_curly_in_keys :
    (∀ row ∈ emoticonRows, NoNul (chars row.1) ∧ NoCurly (chars row.1)) ∧
    (∀ row ∈ emojiNameRows, NoNul (chars row.1) ∧ NoCurly (chars row.1)) ∧
    (∀ row ∈ bengaliNameRows, NoNul (chars row.1) ∧ NoCurly (chars row.1)) :=
  ⟨fun row h => (ok_text (rows_ok.1 row h).1).2, fun row h => (ok_text (rows_ok.2.1 row h).1).2,
    fun row h => (ok_text (rows_ok.2.2 row h).1).2⟩

/-- **an emoticon's word part is an English emoji name for exactly these 10 emoticons** (`o=)` `o=]` `o=-)` `o=-]` `=o`
    `=-o` over the name `o`; `x)` `x]` `x-)` `x-]` over the name `x`); for the other 311 the word part is no name -/
theorem emoticon_is_not_emoji_name_except : ∀ row ∈ emoticonRows,
    (emojiNameLookup (word (chars row.1))).isSome = true ↔ row.1 ∈ emoticonsOverNames.map Prod.fst := by
  intro row hrow
  have hsp : special (emoWord row.1) = true := (Bool.and_eq_true_iff.mp (List.all_eq_true.mp emoticons_names_ok.1 row hrow)).2
  -- its word part is `special`, so it is a name iff it is one of the special names
  have hw : (emojiNameLookup (word (chars row.1))).isSome = true ↔ isSpecialName (emoWord row.1) = true := by
    rw [isSpecialName_iff, and_iff_left hsp, Option.isSome_iff_ne_none, ne_eq, emoji_name_serves.eq_none_iff, Classical.not_not]
    rfl
  rw [hw, ← emoticons_names_ok.2.2, List.map_map]
  constructor
  · exact fun h => List.mem_map.mpr ⟨row, List.mem_filter.mpr ⟨hrow, h⟩, rfl⟩
  · intro h
    obtain ⟨r, hr, he⟩ := List.mem_map.mp h
    have he : r.1 = row.1 := he
    exact he ▸ (List.mem_filter.mp hr).2

/-- … an emoticon of the table outside that list has a word part that `get_by_name` does not know -/
theorem emoticon_word_no_name : ∀ row ∈ emoticonRows, row.1 ∉ emoticonsOverNames.map Prod.fst →
    emojiNameLookup (word (chars row.1)) = none :=
  fun row hrow hne => Option.not_isSome_iff_eq_none.mp (mt (emoticon_is_not_emoji_name_except row hrow).mp hne)

/-- no English emoji name is itself an emoticon: typing a name bare never takes the emoticon branch -/
theorem no_name_is_an_emoticon : ∀ row ∈ emojiNameRows, emoticonLookup (chars row.1) = none := by
  intro row hrow
  rw [emoticon_serves.eq_none_iff, codesOf_natsToChars (emoji_name_serves.valid row hrow)]
  -- an emoticon is `special`; were it a name, it would be a special name
  intro hmem
  obtain ⟨er, her, hek⟩ := List.mem_map.mp hmem
  have h1 := (Bool.and_eq_true_iff.mp (List.all_eq_true.mp emoticons_names_ok.1 er her)).1
  have h2 := List.all_eq_true.mp emoticons_names_ok.2.1 er her
  rw [hek] at h1 h2
  rw [isSpecialName_iff.mpr ⟨List.mem_map_of_mem hrow, h1⟩] at h2
  cases h2

/-! ## 5. the instantiation -/

-- from here on the look-ups are used through the theorems of part 1 only (the elaborator must not unfold the tables)
attribute [local irreducible] emoticonLookup emojiNameLookup bengaliNameLookup

def tableEnv (base : Env) : Env :=
  { base with emoticon := emoticonLookup, emojiByName := emojiNameLookup, emojiBengali := bengaliNameLookup }

def tableData (d : Data) : Data :=
  { d with emoticon := emoticonLookup, emojiByName := emojiNameLookup, emojiBengali := bengaliNameLookup }

def tableWorld (w : World) : World := { w with env := tableEnv w.env }

/-- the real engine over data files with the bundled emoji tables is `tableEnv` of the real engine -/
theorem realEnv_tableData (d : Data) : realEnv (tableData d) = tableEnv (realEnv d) := rfl

/-- **C18, emoticons, phonetic method, on the real table**: for EVERY row of the bundled emoticon table, typing the
    emoticon offers its emoji and keeps the typed text available — every memo and option vector outside ANSI mode, every
    transliterator with `convert "" = ""` that is `PunctFaithful` (the strength of `C18.emoticon_offered`) -/
theorem emoticon_offered_table : ∀ row ∈ emoticonRows, ∀ (base : Env) (cfg : Cfg) (cache : Memo),
    cfg.ansi = false → base.convert [] = [] → C18.PunctFaithful (tableEnv base) cfg (chars row.1) →
    chars row.2 ∈ (suggestList (tableEnv base) cfg cache (chars row.1)).map Rank.text ∧
      chars row.1 ∈ (suggestList (tableEnv base) cfg cache (chars row.1)).map Rank.text :=
  fun row hrow base cfg cache hansi hnil hpf =>
    C18.emoticon_offered (tableEnv base) cfg cache (chars row.1) (chars row.2) hansi hnil hpf (emoticon_serves.found hrow)

/-- **… for the real engine** (okkhor transliterator, regex look-up, encoder; any dictionary / suffix / auto-correct
    files): no side condition left — all 321 emoticons, every memo, every option vector outside ANSI mode -/
theorem emoticon_offered_table_real : ∀ row ∈ emoticonRows, ∀ (d : Data) (cfg : Cfg) (cache : Memo), cfg.ansi = false →
    chars row.2 ∈ (suggestList (realEnv (tableData d)) cfg cache (chars row.1)).map Rank.text ∧
      chars row.1 ∈ (suggestList (realEnv (tableData d)) cfg cache (chars row.1)).map Rank.text :=
  fun row hrow d cfg cache hansi =>
    C18.emoticon_offered_okkhor (realEnv (tableData d)) cfg cache (chars row.1) (chars row.2) rfl hansi
      (emoticon_serves.found hrow)

/-- **C18, English names, phonetic method, on the real table**: for EVERY row of the bundled name table and every typed
    text whose word part is the name and which is not itself an emoticon, ALL emoji of the row are offered, in the order of
    the row, each wrapped in the (transliterated, smart-quoted) punctuation around the word — every base environment, memo
    and option vector outside ANSI mode (the strength of `C18.names_offered`) -/
theorem names_offered_table : ∀ row ∈ emojiNameRows, ∀ (base : Env) (cfg : Cfg) (cache : Memo) (term : Str),
    cfg.ansi = false → emoticonLookup term = none → word term = chars row.1 →
    ((row.2.map chars).map (wrapText (preparedParts (tableEnv base) cfg term).pre (preparedParts (tableEnv base) cfg term).trail)).Sublist
      ((suggestList (tableEnv base) cfg cache term).map Rank.text) := by
  intro row hrow base cfg cache term hansi he hw
  apply C18.names_offered (tableEnv base) cfg cache term (row.2.map chars) hansi he
  rw [preparedParts_word, hw]
  exact emoji_name_serves.found hrow

/-- … typed bare: every English name except `!`, `+1`, `-1` offers all its emoji, in table order, unwrapped.  (Those three
    are never looked up: `names_never_looked_up`.) -/
theorem names_offered_table_bare : ∀ row ∈ emojiNameRows, row.1 ∉ [[33], [43, 49], [45, 49]] →
    ∀ (base : Env) (cfg : Cfg) (cache : Memo), cfg.ansi = false → base.convert [] = [] →
    (row.2.map chars).Sublist ((suggestList (tableEnv base) cfg cache (chars row.1)).map Rank.text) := by
  intro row hrow hne base cfg cache hansi hnil
  have h := names_offered_table row hrow base cfg cache (chars row.1) hansi (no_name_is_an_emoticon row hrow)
    (congrArg Parts.word (names_split_self_except row hrow hne))
  -- the punctuation around a bare name is empty
  have hc : (tableEnv base).convert [] = [] := hnil
  have hpre : (preparedParts (tableEnv base) cfg (chars row.1)).pre = [] ∧ (preparedParts (tableEnv base) cfg (chars row.1)).trail = [] := by
    simp [preparedParts, names_split_self_except row hrow hne, hc, smartQuoter_mk]
  rwa [hpre.1, hpre.2, show wrapText ([] : Str) [] = id from funext wrapText_nil, List.map_id] at h

/-- **… for the real engine**: all emoji of every English name row, in order, for every typed text with that word part that
    is not an emoticon -/
theorem names_offered_table_real : ∀ row ∈ emojiNameRows, ∀ (d : Data) (cfg : Cfg) (cache : Memo) (term : Str),
    cfg.ansi = false → emoticonLookup term = none → word term = chars row.1 →
    ((row.2.map chars).map (wrapText (preparedParts (realEnv (tableData d)) cfg term).pre (preparedParts (realEnv (tableData d)) cfg term).trail)).Sublist
      ((suggestList (realEnv (tableData d)) cfg cache term).map Rank.text) :=
  fun row hrow d cfg cache term => names_offered_table row hrow (realEnv d) cfg cache term

/-- with a clean memo (every reachable memo) the emoji candidates are EXACTLY the emoji of the row, numbered 1, 2, 3, … -/
theorem names_exact_table : ∀ row ∈ emojiNameRows, ∀ (base : Env) (cfg : Cfg) (cache : Memo) (term : Str),
    MemoClean cache → cfg.ansi = false → emoticonLookup term = none → word term = chars row.1 →
    (suggestList (tableEnv base) cfg cache term).filter (fun r => r.variant == .emoji) =
      C18.emojiItems (preparedParts (tableEnv base) cfg term) (row.2.map chars) := by
  intro row hrow base cfg cache term hclean hansi he hw
  apply C18.names_exact (tableEnv base) cfg cache term (row.2.map chars) hclean hansi he
  rw [preparedParts_word, hw]
  exact emoji_name_serves.found hrow

/-- **C18, emoticons, fixed method, on the real table — PARTIAL** (as `C18.emoticon_offered_fixed_partial`): for every row,
    when the typed keys spell the emoticon its emoji is shown, provided fewer than `keep - 1` dictionary hits carry a stored
    number ≤ 1 (excluded: a dictionary listing the typed word that many times) — any admissible ordering, outside ANSI mode -/
theorem emoticon_offered_fixed_table_partial : ∀ row ∈ emoticonRows, ∀ (w : World), IsSortPerm w.sorter → ∀ (cfg : Cfg) (s : FState),
    cfg.ansi = false → s.typed = chars row.1 →
    ((fixedHits (tableWorld w).env cfg (fixedParts cfg s.buffer).word).filter (fun r => decide (r.num ≤ 1))).length + 2 ≤
      (fixedCands (tableWorld w).env cfg s).keep →
    chars row.2 ∈ (C18.shown (tableWorld w) cfg s).map Rank.text :=
  fun row hrow w hs cfg s hansi htyped hfew =>
    C18.emoticon_offered_fixed_partial (tableWorld w) hs cfg s (chars row.2) hansi (htyped ▸ emoticon_serves.found hrow) hfew

/-- **C18, Bengali names, fixed method, on the real table — PARTIAL** (as `C18.names_offered_fixed_partial`): for every row,
    when the word part of the composed text (ZWNJ ignored) is the name and the typed keys are not an emoticon, every emoji
    of the row is shown, wrapped, provided they fit: the emoji, the hits numbered at most like the last emoji, and the
    composed text within `keep`.  Order among the emoji is not claimed (`sort_unstable`).  Excluded by the size condition:
    `হৃদয়` (10 emoji, `heart_never_complete`). -/
theorem names_offered_fixed_table_partial : ∀ row ∈ bengaliNameRows, ∀ (w : World), IsSortPerm w.sorter → ∀ (cfg : Cfg) (s : FState),
    cfg.ansi = false → emoticonLookup s.typed = none →
    (fixedParts cfg s.buffer).word.filter (fun c => c != cZWNJ) = chars row.1 →
    ((fixedHits (tableWorld w).env cfg (fixedParts cfg s.buffer).word).filter (fun r => decide (r.num ≤ row.2.length))).length +
      row.2.length + 1 ≤ (fixedCands (tableWorld w).env cfg s).keep →
    ∀ e ∈ row.2, wrapText (fixedParts cfg s.buffer).pre (fixedParts cfg s.buffer).trail (chars e) ∈ (C18.shown (tableWorld w) cfg s).map Rank.text := by
  intro row hrow w hs cfg s hansi he hw hfew e hemem
  exact C18.names_offered_fixed_partial (tableWorld w) hs cfg s (row.2.map chars) hansi he (hw ▸ bengali_name_serves.found hrow)
    (by simpa using hfew) (chars e) (List.mem_map.mpr ⟨e, hemem, rfl⟩)

/-- the name `হৃদয়` lists 10 emoji and the fixed method never shows more than 8 emoji candidates: whatever is typed, under
    any admissible ordering, fewer emoji candidates are shown than that row lists (the size condition of
    `names_offered_fixed_table_partial` can never hold for it) -/
theorem heart_never_complete (w : World) (hs : IsSortPerm w.sorter) (cfg : Cfg) (s : FState) :
    ∀ row ∈ bengaliNameRows, row.1 = [2489, 2499, 2470, 2527] →
      ((C18.shown w cfg s).filter (fun r => r.variant == .emoji)).length < row.2.length := by
  intro row hrow hk
  have h8 := C18.fixed_at_most_eight_emoji w hs cfg s
  -- keys are distinct: the row with that key is the one row with more than 7 emoji
  have h1 := alookupLast_of_mem_nodup bengali_name_serves.nodup
    ((mem_iff_of_filter_eq emoji_lists_small.2.2.2).mp (List.mem_singleton.mpr rfl)).1
  rw [← hk, alookupLast_of_mem_nodup bengali_name_serves.nodup (v := row.2) hrow] at h1
  rw [Option.some.inj h1]
  simp only [List.length_cons, List.length_nil]
  omega

/-- the C19 data premise for data files with the bundled emoji tables: only the three JSON files are left to check -/
theorem dataNoNul_tableData {d : Data} (hdict : ∀ t, ∀ s ∈ d.dictionary t, NoNul s) (hsfx : ∀ k v, d.suffix k = some v → NoNul v)
    (hac : ∀ k v, d.autocorrect k = some v → NoNul v) : DataNoNul (tableData d) :=
  ⟨hdict, hsfx, hac, fun k v h => (no_nul_no_curly_in_tables.1 k v h).1, fun k l h s hs => (no_nul_no_curly_in_tables.2.1 k l h s hs).1,
    fun k l h s hs => (no_nul_no_curly_in_tables.2.2 k l h s hs).1⟩

/-- the C17 data premise (`NoCurly` everywhere) for data files with the bundled emoji tables: only the three JSON files are left -/
theorem dataAll_noCurly_tableData {d : Data} (ht : TextAll (fun c => c ∉ ['‘', '’', '“', '”']) d) :
    DataAll (fun c => c ∉ ['‘', '’', '“', '”']) (tableData d) :=
  ⟨⟨ht.dict, ht.sfx, ht.ac⟩, fun k v h => (no_nul_no_curly_in_tables.1 k v h).2,
    fun k l h s hs => (no_nul_no_curly_in_tables.2.1 k l h s hs).2⟩

/-- the C07 / C18 data premise `EmojiMarked` (every emoji has a character outside the class, no name lists an emoji twice)
    holds of the bundled tables for the class "below U+2100" -/
theorem emojiMarked_tableData (d : Data) : EmojiMarked (fun c => c.toNat < 0x2100) (tableData d) := by
  have high : ∀ e : List Nat, (∀ n ∈ e, okCode n = true) → e.any highCode = true → ∃ c ∈ chars e, ¬ c.toNat < 0x2100 := by
    intro e hv ha
    obtain ⟨n, hn, hge⟩ := List.any_eq_true.mp ha
    refine ⟨Char.ofNat n, List.mem_map.mpr ⟨n, hn, rfl⟩, ?_⟩
    rw [toNat_ofNat_of_valid (okCode_spec (hv n hn)).1]
    exact Nat.not_lt.mpr (Nat.le_of_ble_eq_true hge)
  constructor
  · intro k v h
    obtain ⟨row, hrow, -, rfl⟩ := emoticon_serves.iff.mp h
    exact high row.2 (rows_ok.1 row hrow).2 (List.all_eq_true.mp high_ok.1 row hrow)
  · intro k l h
    obtain ⟨row, hrow, -, rfl⟩ := emoji_name_serves.iff.mp h
    have hok := (rows_ok.2.1 row hrow).2
    constructor
    · have hnd : row.2.Nodup := nodup_of_distinct_enc (List.all_eq_true.mp lists_nodup_ok.1 row hrow)
      show (row.2.map chars).Pairwise (· ≠ ·)
      rw [List.pairwise_map]
      refine hnd.imp_of_mem fun {a b} ha hb hne hab => hne ?_
      have := congrArg codesOf hab
      rwa [codesOf_natsToChars (ok_text (hok a ha)).1, codesOf_natsToChars (ok_text (hok b hb)).1] at this
    · intro s hs
      obtain ⟨e, he, rfl⟩ := List.mem_map.mp hs
      exact high e (hok e he) (List.all_eq_true.mp (List.all_eq_true.mp high_ok.2 row hrow) e he)

/-! ## 6. non-vacuity: rows of the real tables, run end to end in the kernel -/

/-- `:)` ↦ 😃, `B-)` ↦ 😎 are rows of the emoticon table; `cool` ↦ 😎 🆒 of the name table (the examples of the crate's
    documentation); so the look-ups answer them -/
example : emoticonLookup ":)".toList = some "😃".toList ∧ emoticonLookup "B-)".toList = some "😎".toList ∧
    emojiNameLookup "cool".toList = some ["😎".toList, "🆒".toList] :=
  ⟨emoticon_serves.found samples_ok.1, emoticon_serves.found samples_ok.2.1, emoji_name_serves.found samples_ok.2.2⟩

/-- … and the Bengali table through the look-up function itself, evaluated in the kernel -/
example : bengaliNameLookup "হাসি".toList = some (["☺", "😀", "😁", "😃", "😄", "🙂"].map String.toList) ∧
    bengaliNameLookup "কুল".toList = some ["🆒".toList, "😎".toList] ∧ emoticonLookup "smile".toList = none := by decide +kernel

/-- END TO END (the real transliterator, regex look-up and the bundled tables, the tiny dictionary of RealEnv): typing the
    emoticon `:)` offers 😃, keeps `:)` (and adds the transliteration); typing `"cool"` in quotes offers 😎 then 🆒 inside
    curled quotes -/
example :
    (suggestList (realEnv (tableData tiny)) {} (memoFill (realEnv (tableData tiny)) [] [] ":".toList) ":)".toList).map Rank.text =
      ["😃".toList, ":)".toList, "ঃ)".toList] ∧
    ((suggestList (realEnv (tableData tiny)) {} (memoFill (realEnv (tableData tiny)) [] [] "cool".toList) "\"cool\"".toList).filter
        (fun r => r.variant == .emoji)).map Rank.text = ["“😎”".toList, "“🆒”".toList] := by
  rw [realEnv_tableData, realEnv_tiny]; decide +kernel

/-- the hypotheses of `names_offered_table` are met by a concrete non-trivial input: the row `cool`, the typed text `"cool"!` -/
example : ∃ row ∈ emojiNameRows, emoticonLookup "\"cool\"!".toList = none ∧ word "\"cool\"!".toList = chars row.1 :=
  ⟨([99, 111, 111, 108], [[128526], [127378]]), samples_ok.2.2, by decide +kernel, by decide +kernel⟩

end Riti.EmojiTables
