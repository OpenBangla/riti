/-
Props/C10 — the optional per-user files can be in any state (absent, unreadable, crash-truncated,
read-only directory) at any time: creating a context, typing, committing and re-loading the
configuration keep working; unreadable content is treated as absent; a failed save loses at most
the choices learned since the last successful save, and the next successful save restores them all.

No statement here needs an induction of its own.  Creating and re-loading are read off the equations
of `pNew`, `pUpdate` and `Ctx.new` (`Lemmas/PhoneticStep`); "keeps working" is `no_panic` of C01, whose
contract does not mention the files; the failed save is `step_learn` of C09 with an unwritable
directory; empty strings are what `joinChecked` skips.
-/
import RitiModel.Lemmas.Candidates
import RitiModel.Props.C01
import RitiModel.Props.C09
namespace Riti.C10
open Riti Riti.Gen Riti.C01 Riti.C09 Riti.AList

/-! ### creating a context -/

/-- **new_total** (phonetic): a phonetic context can be created over ANY state of the user files -/
theorem new_total (w : World) (fs : FS) (cfg : Cfg) : ∃ c, Ctx.new w fs cfg "avro_phonetic" = some c :=
  ⟨_, ctxNew_phonetic w fs cfg rfl⟩

/-- **new_total** (fixed): a fixed-layout context is created whenever the layout loads, whatever
    the user files hold — it does not look at them at all -/
theorem new_total_fixed (w : World) (fs : FS) (cfg : Cfg) (p : String) (hp : isPhoneticPath p = false)
    (hl : (w.layouts p).isSome = true) : ∃ c, Ctx.new w fs cfg p = some c :=
  Option.isSome_iff_exists.mp (by rw [ctxNew_not_phonetic w fs cfg hp, Option.isSome_map, hl])

/-- the fixed method ignores the user files -/
theorem new_fixed_ignores_files (w : World) (fs fs' : FS) (cfg : Cfg) (p : String) (hp : isPhoneticPath p = false) :
    Ctx.new w fs cfg p = Ctx.new w fs' cfg p := by
  rw [ctxNew_not_phonetic w fs cfg hp, ctxNew_not_phonetic w fs' cfg hp]

/-- **unreadable_is_absent** (selections file): a file that is not a JSON object of strings gives
    the same method as no file -/
theorem unreadable_is_absent (fs : FS) : pNew { fs with sel := .unreadable } = pNew { fs with sel := .absent } := rfl

/-- **unreadable_is_absent** (auto-correct file): a file that cannot be parsed gives the same
    method as a file that cannot be opened — its mtime is not even recorded -/
theorem unreadable_ac_is_absent (fs : FS) (t : Nat) :
    pNew { fs with ac := some (t, none) } = pNew { fs with ac := none } := rfl

/-- both at once, at the level of `RitiContext::new_with_config` -/
theorem new_unreadable_is_absent (w : World) (fs : FS) (cfg : Cfg) (p : String) (t : Nat) :
    Ctx.new w { fs with sel := .unreadable, ac := some (t, none) } cfg p =
    Ctx.new w { fs with sel := .absent, ac := none } cfg p := by
  cases hp : isPhoneticPath p
  · exact new_fixed_ignores_files w _ _ cfg p hp
  · rw [ctxNew_phonetic w _ cfg hp, ctxNew_phonetic w _ cfg hp]; rfl

/-- a new method over absent / unreadable files is the empty one -/
theorem new_over_nothing (fs : FS) (h1 : fs.sel = .absent ∨ fs.sel = .unreadable)
    (h2 : fs.ac = none ∨ ∃ t, fs.ac = some (t, none)) : pNew fs = {} := by
  rcases fs with ⟨sel, ac, wr⟩
  simp only at h1 h2
  rcases h1 with h1 | h1 <;> rcases h2 with h2 | ⟨t, h2⟩ <;> subst h1 h2 <;> rfl

/-! ### re-loading (`update_engine`) with a damaged auto-correct file -/

/-- **reload: unreadable is absent** (a file had been loaded, the damaged file is newer): the
    observable state — user auto-correct list, memo, and every other field that influences later
    suggestions — is the same as if the file had been removed.  Only the recorded mtime differs
    (`t` against 0): a later repaired file must again be newer than the damaged one to be loaded. -/
theorem reload_unreadable_is_absent (fs : FS) (s : PState) (t : Nat) (hm : s.modified ≠ 0) (ht : t > s.modified) :
    let a := pUpdate { fs with ac := some (t, none) } s
    let b := pUpdate { fs with ac := none } s
    a.userAutocorrect = b.userAutocorrect ∧ a.cache = b.cache ∧ a.selections = b.selections ∧
    a.buffer = b.buffer ∧ a.suggestions = b.suggestions ∧ a.prevSelection = b.prevSelection ∧
    a.modified = t ∧ b.modified = 0 := by
  rw [pUpdate_of_newer rfl ht, pUpdate_of_gone rfl hm]
  simp

/-- … hence the same candidates for every later text -/
theorem reload_unreadable_same_suggestions (env : Env) (cfg : Cfg) (fs : FS) (s : PState) (t : Nat) (term : Str)
    (hm : s.modified ≠ 0) (ht : t > s.modified) :
    (suggest env cfg (pUpdate { fs with ac := some (t, none) } s) term).2 =
    (suggest env cfg (pUpdate { fs with ac := none } s) term).2 := by
  rw [pUpdate_of_newer rfl ht, pUpdate_of_gone rfl hm]
  rfl

/-- **reload: unreadable is absent** (no file had ever been loaded, so the list is empty): the user
    list is empty either way; the damaged file additionally empties the memo, which is harmless
    (the memo is only a cache of look-ups made with the same, empty, list — C05) -/
theorem reload_unreadable_is_absent_never_loaded (fs : FS) (s : PState) (t : Nat)
    (hm : s.modified = 0) (hua : s.userAutocorrect = []) (ht : t > 0) :
    let a := pUpdate { fs with ac := some (t, none) } s
    let b := pUpdate { fs with ac := none } s
    a.userAutocorrect = [] ∧ b.userAutocorrect = [] ∧ a.cache = [] ∧ b.cache = s.cache ∧
    a.selections = b.selections ∧ a.modified = t ∧ b.modified = 0 := by
  rw [pUpdate_of_newer rfl (by omega), pUpdate_of_never rfl hm]
  simp [hua, hm]

/-- a file whose mtime is NOT newer than the recorded one is not looked at, readable or not:
    the reload changes nothing (the list loaded earlier stays in use) -/
theorem pUpdate_not_newer (fs : FS) (s : PState) (t : Nat) (parsed : Option Store)
    (hac : fs.ac = some (t, parsed)) (ht : t ≤ s.modified) : pUpdate fs s = s :=
  pUpdate_of_not_newer hac ht

/-- whatever the files hold, a reload only ever touches the user list, the memo and the recorded
    mtime: composition, candidates, learned choices and preselection are untouched -/
theorem pUpdate_frame (fs : FS) (s : PState) :
    (pUpdate fs s).buffer = s.buffer ∧ (pUpdate fs s).suggestions = s.suggestions ∧
    (pUpdate fs s).selections = s.selections ∧ (pUpdate fs s).prevSelection = s.prevSelection :=
  ⟨pUpdate_buffer fs s, pUpdate_suggestions fs s, pUpdate_selections fs s, pUpdate_prevSelection fs s⟩

/-! ### every call keeps working after any fault -/

/-- a change of the user files by the outside world is always "in contract": the engine has no say -/
theorem setFs_in_contract (w : World) (c : Ctx) (fs' : FS) : InContractEv w c (.setFs fs') := trivial

/-- … it returns normally and does not touch the context -/
theorem setFs_step (w : World) (c : Ctx) (fs fs' : FS) : step w c fs (.setFs fs') = .ok (c, fs', .unit) := rfl

/-- the faults of the property: files removed, replaced by garbage / truncated by a crash
    (`.unreadable`, `some (t, none)`), replaced by other well-formed content, directory made read-only -/
def faults (fs : FS) (t : Nat) (st ua : Store) : List FS :=
  [ { fs with sel := .absent }, { fs with sel := .unreadable }, { fs with sel := .parsed st },
    { fs with ac := none }, { fs with ac := some (t, none) }, { fs with ac := some (t, some ua) },
    { fs with writable := false }, { sel := .unreadable, ac := some (t, none), writable := false } ]

/- The contract of a call (`InContractEv w c e`) does not mention the user files at all: no state of
   the files can make an otherwise legal call illegal. -/

/-- **works_after_faults**: take any history `pre`, let any fault happen (arbitrary new state `bad`
    of the files — in particular every element of `faults`), continue with any in-contract history
    `post`; every call returns normally.  (`no_panic` of C01 already quantifies over all file states
    and over `setFs` anywhere in the history; this spells the fault out.) -/
theorem works_after_faults (w : World) (c : Ctx) (fs bad : FS) (pre post : List Event)
    (h : InContract w c fs (pre ++ .setFs bad :: post)) :
    ∃ r, runFrom w c fs (pre ++ .setFs bad :: post) = .ok r :=
  no_panic w c fs _ h

/-- one fault, one call: after ANY change of the files, in ANY state, each kind of call returns normally
    (`commit` inside the shown list, `update_engine` with a layout that loads) -/
theorem every_call_after_fault (w : World) (c : Ctx) (fs bad : FS) (e : Event) (he : InContractEv w c e) :
    ∃ r, runFrom w c fs [.setFs bad, e] = .ok r :=
  -- the fault is in contract and leaves the context as it is (`setFs_step`), so `he` speaks of the context `e` meets
  no_panic w c fs _ ⟨setFs_in_contract w c bad, fun _ _ _ hs => by cases hs; exact ⟨he, fun _ _ _ _ => trivial⟩⟩

/-- creating a context over damaged files and then making any in-contract call works as well -/
theorem new_then_call_over_damaged_files (w : World) (bad : FS) (cfg : Cfg) (e : Event) :
    ∃ c, Ctx.new w bad cfg "avro_phonetic" = some c ∧ (InContractEv w c e → ∃ r, step w c bad e = .ok r) := by
  obtain ⟨c, hc⟩ := new_total w bad cfg
  exact ⟨c, hc, step_total w c bad e⟩

/-! ### a failed save -/

/-- **failed_save_loses_one**, the later save: a successful save writes the WHOLE in-memory store: every
    choice the context still has — in particular one whose own save failed — is in the written file
    (or has just been replaced by the choice being learned for the same word) -/
theorem later_save_contains_earlier (w : World) (c c' : Ctx) (fs fs' : FS) (s : PState) (i : Nat) (r : Rank) (o : Out)
    (k v : Str)
    (hm : c.m = .phonetic s) (hne : s.prevSelection ≠ i) (hcfg : c.cfg.phoneticSuggestion = true)
    (hr : s.suggestions[i]? = some r) (hw : fs.writable = true)
    (hearlier : alookup s.selections k = some v)
    (hs : step w c fs (.commit i) = .ok (c', fs', o)) :
    ∃ st, fs'.sel = .parsed st ∧ st = ctxSelections c' ∧
      alookup st (learnKey s) = some (learnValue r) ∧ (k ≠ learnKey s → alookup st k = some v) := by
  rw [step_learn w c fs s i r hm hne hcfg hr, if_pos hw] at hs
  cases hs
  exact ⟨_, rfl, rfl, alookup_ainsert_self _ _ _, fun hk => (alookup_ainsert_ne _ _ _ _ hk).trans hearlier⟩

/-- … and the earlier choice is still in memory at that later time (`learned_entry_persists` of C09):
    between the failed and the successful save nothing but re-learning the same word removes it.
    Spelled out for a whole history: -/
theorem entry_survives_history (w : World) (evs : List Event) (c c' : Ctx) (fs fs' : FS) (os : List Out) (k v : Str)
    (hno_relearn : ∀ e ∈ evs, (∀ i, e ≠ .commit i) ∧ (∀ cfg p, e ≠ .update cfg p))
    (h : alookup (ctxSelections c) k = some v)
    (hr : runFrom w c fs evs = .ok (c', fs', os)) : alookup (ctxSelections c') k = some v := by
  refine runFrom_invariant (P := fun c _ => alookup (ctxSelections c) k = some v)
    (fun e he c fs c₁ fs₁ o h hs => ?_) h hr
  rcases learned_entry_persists w c c₁ fs fs₁ e o k v hs h with h' | ⟨i, _, rfl, _⟩ | ⟨cfg, p, rfl, _⟩
  · exact h'
  · exact absurd rfl ((hno_relearn _ he).1 i)
  · exact absurd rfl ((hno_relearn _ he).2 cfg p)

/-- **failed_save_loses_one** (summary): the save fails ⇒ the files are untouched, the running context
    has the new choice and still every older one, and a context started now over the same directory
    has exactly what the file held — only what was learned since the last successful save is missing there -/
theorem failed_save_loses_one (w : World) (c : Ctx) (fs : FS) (s : PState) (i : Nat) (r : Rank) (cfg' : Cfg)
    (hm : c.m = .phonetic s) (hne : s.prevSelection ≠ i) (hcfg : c.cfg.phoneticSuggestion = true)
    (hr : s.suggestions[i]? = some r) (hw : fs.writable = false) :
    ∃ c' cn, step w c fs (.commit i) = .ok (c', fs, .unit) ∧
      alookup (ctxSelections c') (learnKey s) = some (learnValue r) ∧
      (∀ k v, k ≠ learnKey s → alookup s.selections k = some v → alookup (ctxSelections c') k = some v) ∧
      Ctx.new w fs cfg' "avro_phonetic" = some cn ∧ ctxSelections cn = fs.sel.content := by
  have hs := step_learn w c fs s i r hm hne hcfg hr
  rw [if_neg (by simp [hw])] at hs
  exact ⟨_, _, hs, alookup_ainsert_self _ _ _, fun k v hk hv => (alookup_ainsert_ne _ _ _ _ hk).trans hv,
    ctxNew_phonetic w fs cfg' rfl, rfl⟩

/-- **failed_save_loses_one**, the restart on its own: a restart after the failed save sees exactly the previously saved
    store — it lacks only what was learned since that save -/
theorem restart_after_failed_save (w : World) (c : Ctx) (fs : FS) (s : PState) (i : Nat) (r : Rank) (cfg' : Cfg)
    (hm : c.m = .phonetic s) (hne : s.prevSelection ≠ i) (hcfg : c.cfg.phoneticSuggestion = true)
    (hr : s.suggestions[i]? = some r) (hw : fs.writable = false) :
    ∃ c' cn, step w c fs (.commit i) = .ok (c', fs, .unit) ∧ Ctx.new w fs cfg' "avro_phonetic" = some cn ∧
      ctxSelections cn = fs.sel.content := by
  obtain ⟨c', cn, h1, _, _, h4, h5⟩ := failed_save_loses_one w c fs s i r cfg' hm hne hcfg hr hw
  exact ⟨c', cn, h1, h4, h5⟩

/-- if all earlier saves had succeeded (file = store in memory before the commit), the restarted
    context differs from the running one in exactly the one choice whose save failed -/
theorem failed_save_loses_exactly_one (fs : FS) (s : PState) (k v : Str) (hsync : fs.sel = .parsed s.selections) :
    (pNew fs).selections = s.selections ∧
    ∀ k', k' ≠ k → alookup (ainsert s.selections k v) k' = alookup (pNew fs).selections k' := by
  have : (pNew fs).selections = s.selections := by rw [pNew_selections, hsync]; rfl
  exact ⟨this, fun k' hk => by rw [this, alookup_ainsert_ne _ _ _ _ hk]⟩

/-! ### empty strings in the files are harmless -/

/-- **empty_strings_harmless**: an empty base or an empty suffix is skipped (`none`), never an error: the joining
    rule is a total function that answers exactly when both parts are non-empty (`joinChecked_eq_none_iff`); there
    is no error value it could return (the `unwrap`s went with `fix:` 39e96e3) -/
theorem empty_strings_harmless (b s : Str) : joinChecked [] s = none ∧ joinChecked b [] = none :=
  ⟨joinChecked_nil_left s, joinChecked_nil_right b⟩

/-- a learned EMPTY value (`"kor": ""` in a hand-edited file) is skipped by the suffix loop -/
theorem prevSelLoop_skips_empty_value (env : Env) (st : Store) (key test : Str) (rest : List (Str × Str))
    (h : alookup st key = some []) : prevSelLoop env st ((key, test) :: rest) = prevSelLoop env st rest := by
  apply prevSelLoop_skip
  intro sfx base _ hb
  cases h.symm.trans hb
  exact joinChecked_nil_left sfx

/-- an EMPTY suffix value is skipped by the suffix loop -/
theorem prevSelLoop_skips_empty_suffix (env : Env) (st : Store) (key test : Str) (rest : List (Str × Str))
    (h : env.suffix test = some []) : prevSelLoop env st ((key, test) :: rest) = prevSelLoop env st rest := by
  apply prevSelLoop_skip
  intro sfx base hs _
  cases h.symm.trans hs
  exact joinChecked_nil_right base

/-- EMPTY memo items (an auto-correct entry mapping to "") contribute no suffixed candidate -/
theorem suffixedAt_skips_empty_items (env : Env) (cache : Memo) (ks : Str × Str) (entry : List Rank)
    (h : alookup cache ks.1 = some entry) :
    suffixedAt env cache ks =
      suffixedAt env (ainsert cache ks.1 (entry.filter (fun b => !b.text.isEmpty))) ks := by
  simp only [suffixedAt, h, alookup_ainsert_self]
  cases env.suffix ks.2 with
  | none => rfl
  | some sfx =>
    -- an item the filter drops has an empty text, which the joining rule skips anyway
    show entry.filterMap _ = (entry.filter _).filterMap _
    rw [List.filterMap_filter]
    congr 1; funext b
    by_cases hb : b.text = [] <;> simp [hb, joinChecked_nil_left]

/-- an EMPTY suffix value contributes no suffixed candidate -/
theorem suffixedAt_empty_suffix (env : Env) (cache : Memo) (ks : Str × Str) (h : env.suffix ks.2 = some []) :
    suffixedAt env cache ks = [] := by
  simp only [suffixedAt, h]
  split
  · rfl
  · simp [joinChecked_nil_right]

/-- every suffixed candidate has a non-empty text -/
theorem suffixedAt_texts_nonempty (env : Env) (cache : Memo) (ks : Str × Str) :
    ∀ x ∈ suffixedAt env cache ks, ∃ (b : Rank) (sfx j : Str), b.text ≠ [] ∧ sfx ≠ [] ∧ joinChecked b.text sfx = some j ∧ x = b.setText j := by
  intro x hx
  obtain ⟨sfx, _, b, j, _, _, _, hj, rfl⟩ := mem_suffixedAt.mp hx
  have hne : ¬(b.text = [] ∨ sfx = []) := mt (joinChecked_eq_none_iff b.text sfx).2 (hj ▸ nofun)
  exact ⟨b, sfx, j, fun e => hne (.inl e), fun e => hne (.inr e), hj, rfl⟩

/-- a look-up over a store with an empty value for the word itself returns the empty text and
    leaves the store alone: no candidate matches the bare punctuation unless one is exactly that,
    and nothing can go wrong — `selectedFor`, `getPrevSelection` are total functions into plain data -/
theorem selectedFor_empty_value (env : Env) (st : Store) (w : Str) (h : alookup st w = some []) :
    selectedFor env st w = ([], st) := selectedFor_learned env h

/-! ### non-vacuity -/

/-- the hypotheses of `reload_unreadable_is_absent` are satisfiable and the two reloads really differ
    from the state before (a loaded list is dropped) -/
example :
    let s : PState := { userAutocorrect := [(['a'], ['b'])], cache := [(['a'], [])], modified := 5 }
    (pUpdate { ac := some (7, none) } s).userAutocorrect = [] ∧ (pUpdate { ac := none } s).userAutocorrect = [] ∧
    (pUpdate { ac := some (7, none) } s).modified = 7 ∧ (pUpdate { ac := none } s).modified = 0 ∧
    (pUpdate { ac := some (5, none) } s).userAutocorrect = [(['a'], ['b'])] := by decide

/-- the context and files after a call (a dummy if it panicked; the example checks it did not) -/
def okStep : Res (Ctx × FS × Out) → Ctx × FS
  | .ok (c, fs, _) => (c, fs)
  | .error _ => (⟨{}, "", .phonetic {}⟩, {})

/-- a failed save followed by a successful one (a concrete run of the API model): the file is
    untouched by the failed save, and holds BOTH choices after the successful one -/
example :
    let cfg : Cfg := { phoneticSuggestion := true }
    let w : World := ⟨envQ, fun _ => none, sortStable⟩
    let c : Ctx := ⟨cfg, "avro_phonetic", .phonetic { buffer := ['e'], suggestions := [.other ['এ'] 0, .other ['ে'] 10] }⟩
    let r₁ := okStep (step w c { writable := false } (.commit 1))
    let c₁ : Ctx := ⟨cfg, "avro_phonetic", .phonetic
      { buffer := ['i'], suggestions := [.other ['ই'] 0, .other ['ি'] 10], selections := ctxSelections r₁.1 }⟩
    let r₂ := okStep (step w c₁ { r₁.2 with writable := true } (.commit 1))
    r₁.2.sel.content = [] ∧ ctxSelections r₁.1 = [(['e'], ['ে'])] ∧
    r₂.2.sel.content = [(['e'], ['ে']), (['i'], ['ি'])] := by decide

end Riti.C10
