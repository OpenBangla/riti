/-
Lemmas/Provenance — where the characters of a candidate come from, for an arbitrary character predicate `P`.

Every text the two methods hand out is put together from the sources — entries of the data files (`Env`), the typed
text, the memo — by cutting, concatenating, wrapping, the transliterator, and a handful of constant characters (the
three joining letters, the curly quotes, ZWNJ).  So a predicate that holds of every character of the sources and of
those constants holds of every character of every candidate.  Lemmas/Candidates says which the sources are; here is
the one check per source.  The instances are `P c := c ≠ '\x00'` (Lemmas/NoNul*, C19), "not a curly quote" (C17),
"not one of the five code points poriborton panics on" (C01/C02/C16 under ANSI) and "below U+2100" (C07/C18), see
Props/RealEnv §9.
-/
import RitiModel.Lemmas.Split
import RitiModel.Lemmas.Okkhor
import RitiModel.Lemmas.Candidates
import RitiModel.Lemmas.Logic
import RitiModel.Lemmas.FixedSuggest
namespace Riti.Real
open Gen

/-! ### texts of `P` characters; what the engine itself adds (`CharOk`) -/

/-- every character of the text satisfies `P` -/
def AllC (P : Char → Prop) (s : Str) : Prop := ∀ c ∈ s, P c

instance (P : Char → Prop) [DecidablePred P] (s : Str) : Decidable (AllC P s) := by unfold AllC; infer_instance

theorem AllC.append {P : Char → Prop} {a b : Str} (ha : AllC P a) (hb : AllC P b) : AllC P (a ++ b) :=
  fun c hc => (List.mem_append.1 hc).elim (ha c) (hb c)

theorem AllC.sublist {P : Char → Prop} {a b : Str} (hb : AllC P b) (h : a.Sublist b) : AllC P a :=
  fun c hc => hb c (h.subset hc)

variable {P : Char → Prop}

theorem allC_append {a b : Str} : AllC P (a ++ b) ↔ AllC P a ∧ AllC P b := List.forall_mem_append

theorem AllC.singleton {c : Char} (h : P c) : AllC P [c] := fun _ hd => List.mem_singleton.1 hd ▸ h

theorem AllC.map {s : Str} (h : AllC P s) {f : Char → Char} (hf : ∀ c, P c → P (f c)) : AllC P (s.map f) :=
  List.forall_mem_map.2 fun d hd => hf d (h d hd)

theorem AllC.wrap {p s t : Str} (hp : AllC P p) (hs : AllC P s) (ht : AllC P t) : AllC P (p ++ s ++ t) :=
  (hp.append hs).append ht

theorem AllC.wrapR {p t : Str} (hp : AllC P p) (ht : AllC P t) {r : Rank} (hr : AllC P r.text) :
    AllC P (wrapR p t r).text := by
  rw [wrapR_text]; exact hp.wrap hr ht

/-- every value of the user auto-correct list satisfies `P` -/
def StoreAll (P : Char → Prop) (ua : Store) : Prop := ∀ k v, alookup ua k = some v → AllC P v

theorem storeAll_nil : StoreAll P [] := nofun

/-- what the engine itself can add to a text: `P` holds of the replacement texts of the Avro table, is kept by
    `conditional_lowercase`, holds of the three letters of the suffix-joining rule -/
structure CharOk (P : Char → Prop) : Prop where
  tbl : ∀ p ∈ okkhorPatterns, ∀ r ∈ p.dflt :: p.rules.map Prod.snd, ∀ c ∈ natsToChars r, P c
  low : ∀ c, P c → P (condLower c)
  join : P cY ∧ P cT ∧ P cNga

/-- `CharOk` from a sweep of the generated table in the kernel, `P` of the lower-case ASCII letters (all that
    `conditional_lowercase` can put in place of a character) and of the joining letters -/
theorem CharOk.of_sweep (P : Char → Prop) [DecidablePred P]
    (htbl : okkhorPatterns.all (fun p => (p.dflt :: p.rules.map Prod.snd).all fun r =>
      (natsToChars r).all fun c => decide (P c)) = true)
    (hlow : ∀ c : Char, 97 ≤ c.toNat → c.toNat ≤ 122 → P c) (hjoin : P cY ∧ P cT ∧ P cNga) : CharOk P where
  tbl := by simpa only [List.all_eq_true, decide_eq_true_eq] using htbl
  low c h := by
    rcases condLower_cases c with he | he
    · rw [he]; exact h
    · exact hlow _ he.1 he.2
  join := hjoin

theorem okConvert_allC (hP : CharOk P) {s : Str} (h : AllC P s) : AllC P (okConvert s) :=
  okConvert_all P hP.tbl hP.low h

end Riti.Real

namespace Riti
open Gen Real

variable {P : Char → Prop}

/-! ### the sources: lists, parts, memo, quotes, environment -/

/-- the candidates of a list consist of `P` characters -/
def RanksAll (P : Char → Prop) (l : List Rank) : Prop := ∀ r ∈ l, AllC P r.text

/-- the three parts consist of `P` characters -/
def PartsAll (P : Char → Prop) (p : Parts) : Prop := AllC P p.pre ∧ AllC P p.word ∧ AllC P p.trail

/-- every text in the memo consists of `P` characters -/
def MemoAll (P : Char → Prop) (cache : Memo) : Prop := ∀ k e, alookup cache k = some e → RanksAll P e

/-- `P` holds of the four curly quotes whenever smart quotes are on -/
def QuotesOk (P : Char → Prop) (cfg : Cfg) : Prop := cfg.smartQuote = true → P '‘' ∧ P '’' ∧ P '“' ∧ P '”'

/-- `P` holds of every text the environment contributes to the dictionary stage -/
structure EnvAll (P : Char → Prop) (env : Env) : Prop where
  conv : ∀ s, AllC P s → AllC P (env.convert s)
  dict : ∀ w l, env.dictPhonetic w = some l → ∀ s ∈ l, AllC P s
  sfx : ∀ k v, env.suffix k = some v → AllC P v
  ac : ∀ k v, env.autocorrect k = some v → AllC P v

/-! ### cutting the typed text, the quotes -/

/-- the three parts of `split` are pieces of the input -/
theorem split_all {t : Str} (ic : Bool) (h : AllC P t) : PartsAll P (split t ic) := by
  rw [← split_append t ic, allC_append, allC_append] at h
  exact ⟨h.1.1, h.1.2, h.2⟩

theorem smartQuoter_all (hq : P '‘' ∧ P '’' ∧ P '“' ∧ P '”') {p : Parts} (h : PartsAll P p) :
    PartsAll P (smartQuoter p) :=
  ite_ind (Q := PartsAll P) (fun _ => h) fun _ =>
    ⟨h.1.map fun _ hc => ite_ind (fun _ => hq.1) fun _ => ite_ind (fun _ => hq.2.2.1) fun _ => hc, h.2.1,
     h.2.2.map fun _ hc => ite_ind (fun _ => hq.2.1) fun _ => ite_ind (fun _ => hq.2.2.2) fun _ => hc⟩

theorem quoted_all {cfg : Cfg} (hq : QuotesOk P cfg) {p : Parts} (h : PartsAll P p) :
    PartsAll P (if cfg.smartQuote = true then smartQuoter p else p) :=
  ite_ind (Q := PartsAll P) (fun hs => smartQuoter_all (hq hs) h) (fun _ => h)

theorem fixedParts_all {cfg : Cfg} (hq : QuotesOk P cfg) {buffer : Str} (h : AllC P buffer) :
    PartsAll P (fixedParts cfg buffer) :=
  quoted_all hq (split_all true h)

theorem preparedParts_all {env : Env} (hc : ∀ s, AllC P s → AllC P (env.convert s)) {cfg : Cfg} (hq : QuotesOk P cfg)
    {term : Str} (h : AllC P term) : PartsAll P (preparedParts env cfg term) := by
  obtain ⟨h1, h2, h3⟩ := split_all false h
  exact quoted_all hq (p := ⟨_, _, _⟩) ⟨hc _ h1, h2, hc _ h3⟩

theorem suggestOnlyPhonetic_all {env : Env} (hc : ∀ s, AllC P s → AllC P (env.convert s)) {term : Str}
    (h : AllC P term) : AllC P (suggestOnlyPhonetic env term) := by
  obtain ⟨h1, h2, h3⟩ := split_all false h
  exact (hc _ h1).wrap (hc _ h2) (hc _ h3)

/-! ### the memo -/

theorem computeEntry_all {env : Env} (he : EnvAll P env) {ua : Store} (hua : StoreAll P ua) (w : Str) :
    RanksAll P (computeEntry env ua w) := by
  intro r hr
  rcases mem_computeEntry.mp hr with ⟨c, hc, rfl⟩ | ⟨l, hd, s, hs, rfl⟩
  · apply he.conv
    rcases searchCorrected_eq_some.mp hc with hv | ⟨_, hv⟩
    · exact hua _ _ hv
    · exact he.ac _ _ hv
  · exact he.dict _ _ hd s hs

theorem memoFill_all {env : Env} (he : EnvAll P env) {ua : Store} (hua : StoreAll P ua) {cache : Memo}
    (hc : MemoAll P cache) (w : Str) : MemoAll P (memoFill env ua cache w) :=
  memoFill_forall (Q := fun _ e => RanksAll P e) hc (computeEntry_all he hua w)

/-! ### the phonetic candidates -/

/-- the suffix-joining rule adds one of য় ত ঙ at most -/
theorem joinChecked_all (hj : P cY ∧ P cT ∧ P cNga) {b s t : Str} (h : joinChecked b s = some t) (hb : AllC P b)
    (hs : AllC P s) : AllC P t := by
  obtain ⟨rmc, lmc, -, -, rfl⟩ := joinChecked_eq_some h
  have hd := hb.sublist (List.dropLast_sublist b)
  exact ite_ind (fun _ => hb.wrap (.singleton hj.1) hs) fun _ =>
    ite_ind (fun _ => hd.wrap (.singleton hj.2.1) hs) fun _ =>
    ite_ind (fun _ => hd.wrap (.singleton hj.2.2) hs) fun _ => hb.append hs

theorem BaseSrc.all {env : Env} (he : EnvAll P env) (hj : P cY ∧ P cT ∧ P cNga) {cache : Memo} (hm : MemoAll P cache)
    {w : Str} (hw : AllC P w) {r : Rank} (h : BaseSrc env cache w r) : AllC P r.text := by
  cases h with
  | memo hce hb => exact hm _ _ hce _ hb
  | joined _ _ hs hce hb hjn => simpa using joinChecked_all hj hjn (hm _ _ hce _ hb) (he.sfx _ _ hs)
  | translit => exact he.conv _ hw

theorem dictList_all {env : Env} (he : EnvAll P env) (hj : P cY ∧ P cT ∧ P cNga) {cache : Memo} (hm : MemoAll P cache)
    {parts : Parts} (hp : PartsAll P parts) : RanksAll P (dictList env cache parts) := by
  rw [dictList_eq]
  intro x hx
  obtain ⟨b, hb, rfl⟩ := List.mem_map.1 hx
  exact .wrapR hp.1 hp.2.2 ((mem_baseItems hb).all he hj hm hp.2.1)

/-- **the whole candidate list** of `PhoneticSuggestion::suggest`: every character of every candidate satisfies `P`
    provided `P` holds of what the environment contributes (of the emoji only outside ANSI mode, where the code looks
    them up), of the joining letters, of the curly quotes if they are on, of the memo and of the typed text -/
theorem suggestList_all {env : Env} (he : EnvAll P env) {cfg : Cfg}
    (hemo : cfg.ansi = false → ∀ k v, env.emoticon k = some v → AllC P v)
    (hname : cfg.ansi = false → ∀ k l, env.emojiByName k = some l → ∀ s ∈ l, AllC P s) (hj : P cY ∧ P cT ∧ P cNga)
    (hq : QuotesOk P cfg) {cache : Memo} (hm : MemoAll P cache) {term : Str} (ht : AllC P term) :
    RanksAll P (suggestList env cfg cache term) := by
  obtain ⟨hp, hw, htr⟩ := preparedParts_all he.conv hq ht
  refine forall_mem_suggestList (Q := fun r => AllC P r.text) ?_ ?_ ?_ ?_
  · exact fun b hb => .wrapR hp htr ((mem_baseItems hb).all he hj hm hw)
  · exact fun ha _ es hes x hx => hp.wrap (hname ha _ _ hes _ (List.fst_mem_of_mem_zipIdx hx)) htr
  · exact fun ha _ h => ⟨hemo ha _ _ h, fun _ => ht⟩
  · exact fun _ _ _ => ht

/-! ### the fixed method: what `forall_mem_fDict` asks of the dictionary hits and the emoji items -/

/-- the dictionary hits (ZWNJ is inserted for traditional joining) -/
theorem fixedHits_all {env : Env} (ht : ∀ t, ∀ s ∈ env.fixedTable t, AllC P s) (hz : P cZWNJ) (cfg : Cfg) (word : Str) :
    RanksAll P (fixedHits env cfg word) := by
  intro r hr
  obtain ⟨tbl, d, _, hd, _, _, _, rfl⟩ := mem_fixedHits hr
  refine ite_ind (Q := AllC P) (fun _ c hc => ?_) (fun _ => ht tbl d hd)
  obtain ⟨x, hx, hcx⟩ := List.mem_flatMap.1 hc
  have hxP : AllC P [x] := .singleton (ht tbl d hd x hx)
  exact ite_ind (Q := AllC P) (fun _ => (AllC.singleton hz).append hxP) (fun _ => hxP) c hcx

theorem fixedEmoji_all {env : Env} {cfg : Cfg} (hemo : cfg.ansi = false → ∀ k v, env.emoticon k = some v → AllC P v)
    (hbn : cfg.ansi = false → ∀ k l, env.emojiBengali k = some l → ∀ s ∈ l, AllC P s) {parts : Parts}
    (hp : PartsAll P parts) (typed : Str) : RanksAll P (fixedEmoji env cfg parts typed) := by
  intro r hr
  obtain ⟨ha, ⟨e, he, rfl⟩ | ⟨es, x, n, hes, hx, rfl⟩⟩ := mem_fixedEmoji hr
  · exact hemo ha _ _ he
  · exact hp.1.wrap (hbn ha _ _ hes _ (List.fst_mem_of_mem_zipIdx hx)) hp.2.2

/-- **the whole candidate list** of the fixed method's `create_dictionary_suggestion`, for any ordering that permutes:
    every character of every candidate satisfies `P` provided `P` holds of the dictionary, of ZWNJ, of the emoji
    (outside ANSI mode), of the curly quotes if they are on, of the composed text and (English on) of the keys typed -/
theorem fDictSuggestion_all {w : World} (hs : ∀ l, (w.sorter l).Perm l) {cfg : Cfg}
    (ht : ∀ t, ∀ s ∈ w.env.fixedTable t, AllC P s) (hz : P cZWNJ)
    (hemo : cfg.ansi = false → ∀ k v, w.env.emoticon k = some v → AllC P v)
    (hbn : cfg.ansi = false → ∀ k l, w.env.emojiBengali k = some l → ∀ s ∈ l, AllC P s) (hq : QuotesOk P cfg)
    {s : FState} (hb : AllC P s.buffer) (hty : cfg.english = true → AllC P s.typed) :
    RanksAll P (fDictSuggestion w cfg s).1.suggestions := by
  have hp := fixedParts_all hq hb
  exact forall_mem_fDict (Q := fun r => AllC P r.text) hs (.wrapR hp.1 hp.2.2 hp.2.1)
    (fun r0 h0 => .wrapR hp.1 hp.2.2 (fixedHits_all ht hz cfg _ r0 h0)) (fixedEmoji_all hemo hbn hp s.typed)
    (fun h _ => hty h)

end Riti
