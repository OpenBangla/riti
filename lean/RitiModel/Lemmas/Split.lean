/-
Lemmas/Split — `split` (`SplittedString::split`) characterised once: the scan from the right,
normalised to start at 0 (`tlen`); the three parts for each shape of input; `smart_quoter` on the three parts
(`smartQuoter_mk`); and the two character classes of property C03 (ASCII letters and digits, its 27 punctuation
characters).
`Lemmas/SplitWord` builds the theory of the word part on it.
-/
import RitiModel.Model.Split
import RitiModel.Lemmas.Logic
namespace Riti
open Gen

/-! ### the right-to-left scan, normalised to start at 0

`trailLen` goes over the REVERSED text with two counters (code points passed, length of the trailing part found so far).
`tlen` is the scan with both at 0; `trailLen_eq` gives the scan with any counters back from it, and after the recursion
equation `tlen_cons` nothing mentions `trailLen` any more. The back-tick is the escape character of `split` (`esc`: the
scan has just passed one); passing it does not move the cut, which is why `tlen_cons` answers 0 at a back-tick when the
rest cuts nothing. -/

/-- length of the trailing part found by the scan started in escape state `esc` -/
def tlen (ic : Bool) (l : List Char) (esc : Bool) : Nat := trailLen ic l esc 0 0

theorem trailLen_eq (ic : Bool) (l : List Char) (esc : Bool) (n last : Nat) :
    trailLen ic l esc n last = if tlen ic l esc = 0 then last else n + tlen ic l esc := by
  induction l generalizing esc n last with
  | nil => rfl
  | cons c cs ih =>
    unfold tlen
    simp only [trailLen]
    split
    · rw [ih true (n + 1) last, ih true (0 + 1) 0]
      by_cases h : tlen ic cs true = 0 <;> simp [h] <;> omega
    · split
      · rw [ih false (n + 1) (n + 1), ih false (0 + 1) (0 + 1)]
        by_cases h : tlen ic cs false = 0 <;> simp [h] <;> omega
      · rfl

theorem tlen_nil (ic : Bool) (esc : Bool) : tlen ic [] esc = 0 := rfl

theorem tlen_cons (ic : Bool) (c : Char) (cs : List Char) (esc : Bool) :
    tlen ic (c :: cs) esc =
      if !esc && c == '`' then (if tlen ic cs true = 0 then 0 else 1 + tlen ic cs true)
      else if ((ic || esc) && c == ':') || isMeta c then 1 + tlen ic cs false
      else 0 := by
  conv => lhs; unfold tlen; simp only [trailLen]
  split
  · rw [trailLen_eq]
  · split
    · rw [trailLen_eq]
      split
      · next h => rw [h]
      · omega
    · rfl

theorem isMeta_ne_backtick {c : Char} (h : isMeta c = true) : (c == '`') = false := ne_of_class h (by decide)

theorem tlen_cons_meta (ic : Bool) {c : Char} (cs : List Char) (h : isMeta c = true) :
    tlen ic (c :: cs) false = 1 + tlen ic cs false := by
  rw [tlen_cons]; simp [isMeta_ne_backtick h, h]

theorem tlen_append_meta (ic : Bool) (ms rest : List Char) (hm : ∀ c ∈ ms, isMeta c = true) :
    tlen ic (ms ++ rest) false = ms.length + tlen ic rest false := by
  induction ms with
  | nil => simp
  | cons a ms ih =>
    rw [List.cons_append, tlen_cons_meta ic _ (hm a List.mem_cons_self),
      ih (fun c hc => hm c (List.mem_cons_of_mem _ hc)), List.length_cons]
    omega

theorem tlen_cons_stop (ic : Bool) {c : Char} (cs : List Char) (hm : isMeta c = false) (hb : (c == '`') = false)
    (hc : (ic && c == ':') = false) : tlen ic (c :: cs) false = 0 := by
  rw [tlen_cons]; simp [hm, hb, hc]

theorem tlen_le (ic : Bool) (l : List Char) (esc : Bool) : tlen ic l esc ≤ l.length := by
  induction l generalizing esc with
  | nil => simp [tlen_nil]
  | cons c cs ih =>
    rw [tlen_cons]
    have h1 := ih true
    have h2 := ih false
    simp only [List.length_cons]
    split
    · split <;> omega
    · split <;> omega

/-- Once the trailing part is cut off, a new scan finds nothing more to cut. The first disjunct is needed: where a scan
    started inside an escape cuts nothing, a scan from outside still may. -/
theorem tlen_drop (ic : Bool) (l : List Char) (esc : Bool) :
    tlen ic l esc = 0 ∨ tlen ic (l.drop (tlen ic l esc)) false = 0 := by
  induction l generalizing esc with
  | nil => exact .inl rfl
  | cons c cs ih =>
    rw [tlen_cons]
    split
    · split
      · exact .inl rfl
      · rw [Nat.add_comm, List.drop_succ_cons]; exact .inr ((ih true).resolve_left ‹_›)
    · split
      · rw [Nat.add_comm, List.drop_succ_cons]
        exact .inr ((ih false).elim (fun h0 => by rw [h0]; exact h0) id)
      · exact .inl rfl

theorem tlen_drop_false (ic : Bool) (l : List Char) : tlen ic (l.drop (tlen ic l false)) false = 0 :=
  (tlen_drop ic l false).elim (fun h => by rw [h]; exact h) id

/-! ### the three parts -/

/-- `split` without its `match` and `let`s, in terms of `tlen` -/
theorem split_def (t : List Char) (ic : Bool) :
    split t ic = if t.dropWhile isMeta = [] then ⟨t, [], []⟩
      else ⟨t.takeWhile isMeta,
            (t.dropWhile isMeta).take ((t.dropWhile isMeta).length - tlen ic (t.dropWhile isMeta).reverse false),
            (t.dropWhile isMeta).drop ((t.dropWhile isMeta).length - tlen ic (t.dropWhile isMeta).reverse false)⟩ := by
  unfold split tlen
  cases t.dropWhile isMeta <;> rfl

theorem split_all_meta {t : List Char} (ic : Bool) (h : ∀ c ∈ t, isMeta c = true) : split t ic = ⟨t, [], []⟩ := by
  rw [split_def, if_pos (by simpa using List.dropWhile_append_of_pos (l₂ := []) h)]

theorem split_meta_append (pre : List Char) (x : Char) (xs : List Char) (ic : Bool)
    (hpre : ∀ c ∈ pre, isMeta c = true) (hx : isMeta x = false) :
    split (pre ++ x :: xs) ic =
      ⟨pre, (x :: xs).take ((x :: xs).length - tlen ic (x :: xs).reverse false),
            (x :: xs).drop ((x :: xs).length - tlen ic (x :: xs).reverse false)⟩ := by
  have hx' : ¬ isMeta x = true := by simp [hx]
  rw [split_def, List.dropWhile_append_of_pos hpre, List.takeWhile_append_of_pos hpre,
    List.dropWhile_cons_of_neg hx', List.takeWhile_cons_of_neg hx', if_neg (List.cons_ne_nil _ _), List.append_nil]

theorem split_cons_nonmeta (x : Char) (xs : List Char) (ic : Bool) (hx : isMeta x = false) :
    split (x :: xs) ic =
      ⟨[], (x :: xs).take ((x :: xs).length - tlen ic (x :: xs).reverse false),
           (x :: xs).drop ((x :: xs).length - tlen ic (x :: xs).reverse false)⟩ :=
  split_meta_append [] x xs ic (by simp) hx

theorem split_append (t : List Char) (ic : Bool) :
    (split t ic).pre ++ (split t ic).word ++ (split t ic).trail = t := by
  rw [split_def]
  split
  · simp
  · simp only [List.append_assoc, List.take_append_drop, List.takeWhile_append_dropWhile]

theorem split_pre_takeWhile (t : List Char) (ic : Bool) : (split t ic).pre = t.takeWhile isMeta := by
  rw [split_def]
  split
  · next h => simpa [h] using (List.takeWhile_append_dropWhile (p := isMeta) (l := t)).symm
  · rfl

theorem split_pre_all_meta (t : List Char) (ic : Bool) : ∀ c ∈ (split t ic).pre, isMeta c = true := by
  rw [split_pre_takeWhile]
  exact List.all_eq_true.1 List.all_takeWhile

/-- `hlast` is the condition of `tlen_cons_stop`: the scan stops at the last character of the word. -/
theorem split_wrap (ic : Bool) (lead w trail : List Char) (hw : w ≠ [])
    (hl : ∀ c ∈ lead, isMeta c = true) (ht : ∀ c ∈ trail, isMeta c = true)
    (hfirst : ∀ x ∈ w.head?, isMeta x = false)
    (hlast : ∀ y ∈ w.getLast?, isMeta y = false ∧ (y == '`') = false ∧ (ic && y == ':') = false) :
    split (lead ++ w ++ trail) ic = ⟨lead, w, trail⟩ := by
  obtain ⟨x, xs, rfl⟩ := List.exists_cons_of_ne_nil hw
  -- the scan from the right crosses `trail` and stops at the last character of the word
  have htl : tlen ic (x :: (xs ++ trail)).reverse false = trail.length := by
    cases hr : (x :: xs).reverse with
    | nil => simp at hr
    | cons y zs =>
      obtain ⟨h1, h2, h3⟩ := hlast y (by rw [List.getLast?_eq_head?_reverse, hr]; rfl)
      rw [← List.cons_append, List.reverse_append, hr,
        tlen_append_meta ic _ _ (fun c hc => ht c (List.mem_reverse.mp hc)), tlen_cons_stop ic zs h1 h2 h3,
        List.length_reverse, Nat.add_zero]
  have hlen : (x :: (xs ++ trail)).length - trail.length = (x :: xs).length := by
    simp only [List.length_cons, List.length_append]; omega
  rw [List.append_assoc, List.cons_append, split_meta_append lead x (xs ++ trail) ic hl (hfirst x rfl), htl, hlen,
    ← List.cons_append, List.take_left' rfl, List.drop_left' rfl]

theorem split_self (ic : Bool) (w : List Char) (hfirst : ∀ x ∈ w.head?, isMeta x = false)
    (hlast : ∀ y ∈ w.getLast?, isMeta y = false ∧ (y == '`') = false ∧ (ic && y == ':') = false) :
    split w ic = ⟨[], w, []⟩ := by
  by_cases hw : w = []
  · subst hw; rfl
  · simpa using split_wrap ic [] w [] hw (by simp) (by simp) hfirst hlast

theorem split_concat_meta (t : List Char) (c : Char) (ic : Bool) (hc : isMeta c = true) :
    split (t ++ [c]) ic =
      if t.dropWhile isMeta = [] then ⟨t ++ [c], [], []⟩
      else ⟨(split t ic).pre, (split t ic).word, (split t ic).trail ++ [c]⟩ := by
  have hmeta : ∀ d ∈ t.takeWhile isMeta, isMeta d = true := List.all_eq_true.1 List.all_takeWhile
  have ht := (List.takeWhile_append_dropWhile (p := isMeta) (l := t)).symm
  cases hd : t.dropWhile isMeta with
  | nil =>
    rw [hd, List.append_nil] at ht
    have hall : ∀ d ∈ t, isMeta d = true := by rw [ht]; exact hmeta
    rw [if_pos rfl]
    exact split_all_meta ic (fun d hd => (List.mem_append.1 hd).elim (hall d) (fun h => List.mem_singleton.1 h ▸ hc))
  | cons x xs =>
    have hx : isMeta x = false := by simpa [hd] using List.head_dropWhile_not isMeta (l := t) (by simp [hd])
    rw [if_neg (List.cons_ne_nil _ _)]
    rw [hd] at ht
    have hle : tlen ic (x :: xs).reverse false ≤ xs.length + 1 := by simpa using tlen_le ic (x :: xs).reverse false
    have e : (x :: (xs ++ [c])).length - (1 + tlen ic (x :: xs).reverse false) =
        (x :: xs).length - tlen ic (x :: xs).reverse false := by
      simp only [List.length_cons, List.length_append, List.length_nil]; omega
    rw [ht, List.append_assoc, List.cons_append, split_meta_append _ x xs ic hmeta hx,
      split_meta_append _ x (xs ++ [c]) ic hmeta hx, ← List.cons_append, List.reverse_append, List.reverse_singleton,
      List.singleton_append, tlen_cons_meta ic _ hc, List.cons_append, e, ← List.cons_append,
      List.take_append_of_le_length (Nat.sub_le _ _), List.drop_append_of_le_length (Nat.sub_le _ _)]

/-! ### `smart_quoter` -/

theorem smartQuoter_mk (p w r : List Char) :
    smartQuoter ⟨p, w, r⟩ = if w = [] then ⟨p, w, r⟩ else ⟨p.map openQuote, w, r.map closeQuote⟩ := by
  cases w <;> simp [smartQuoter]

theorem smartQuoter_of_word_nil {p : Parts} (h : p.word = []) : smartQuoter p = p := by
  obtain ⟨_, w, _⟩ := p; rw [smartQuoter_mk, if_pos h]

theorem smartQuoter_word (p : Parts) : (smartQuoter p).word = p.word := by
  obtain ⟨_, w, _⟩ := p; rw [smartQuoter_mk]; split <;> rfl

theorem smartQuoter_length (p : Parts) :
    (smartQuoter p).pre.length = p.pre.length ∧ (smartQuoter p).trail.length = p.trail.length := by
  obtain ⟨_, w, _⟩ := p; rw [smartQuoter_mk]; split <;> simp

/-! ### the character classes of property C03 -/

def isAlnum (c : Char) : Bool :=
  let n := c.toNat
  (48 ≤ n && n ≤ 57) || (65 ≤ n && n ≤ 90) || (97 ≤ n && n ≤ 122)

/-- the 27 punctuation characters of property C03: `-]~!@#%&*()_=+[{}'";<>/?|.,` -/
def punct27 : List Nat :=
  [45, 93, 126, 33, 64, 35, 37, 38, 42, 40, 41, 95, 61, 43, 91, 123, 125, 39, 34, 59, 60, 62, 47, 63, 124, 46, 44]

def isPunct27 (c : Char) : Bool := punct27.contains c.toNat

theorem meta_not_alnum :
    metaSet.all (fun n => !((48 ≤ n && n ≤ 57) || (65 ≤ n && n ≤ 90) || (97 ≤ n && n ≤ 122))) = true := by decide +kernel

theorem alnum_not_meta (c : Char) (h : isAlnum c = true) : isMeta c = false := by
  cases hm : isMeta c with
  | false => rfl
  | true =>
    have := List.all_eq_true.1 meta_not_alnum c.toNat (List.contains_iff_mem.1 hm)
    rw [show ((48 ≤ c.toNat && c.toNat ≤ 57) || (65 ≤ c.toNat && c.toNat ≤ 90) || (97 ≤ c.toNat && c.toNat ≤ 122)) = true
      from h] at this
    cases this

theorem alnum_ne_backtick (c : Char) (h : isAlnum c = true) : (c == '`') = false := ne_of_class h (by decide)

theorem alnum_ne_colon (c : Char) (h : isAlnum c = true) : (c == ':') = false := ne_of_class h (by decide)

theorem punct27_sub_meta : punct27.all metaSet.contains = true := by decide +kernel

theorem punct27_meta (c : Char) (h : isPunct27 c = true) : isMeta c = true :=
  List.all_eq_true.1 punct27_sub_meta c.toNat (List.contains_iff_mem.1 h)

end Riti
