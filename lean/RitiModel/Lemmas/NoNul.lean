/-
Lemmas/NoNul — no text the engine builds contains U+0000 (the precondition of
`CString::from_vec_unchecked` in src/ffi.rs; C19).  Part 1: basics, the key table, okkhor's `convert` and the
Bijoy encoder, the phonetic method.  The candidate pipeline is the instance `P c := c ≠ '\x00'` of
Lemmas/Provenance; what is assumed of the data the engine is given is `NoNulEnv`, `StoreNoNul`, `NoNulFS`.
-/
import RitiModel.Model.Context
import RitiModel.Lemmas.Bijoy
import RitiModel.Lemmas.Keys
import RitiModel.Lemmas.PhoneticStep
import RitiModel.Lemmas.Provenance
namespace Riti
open Real

def NoNul (s : Str) : Prop := '\x00' ∉ s

/-- what C sees of a buffer handed over with `CString::from_vec_unchecked`: the text up to the
    first NUL -/
def cView (s : Str) : Str := s.takeWhile (fun c => c != '\x00')

/-- C sees the whole text iff the text is NUL-free; otherwise it is silently cut (and
    `CString::from_raw` later recomputes a wrong length) -/
theorem cView_eq_iff (s : Str) : cView s = s ↔ NoNul s := by
  unfold cView NoNul
  induction s with
  | nil => simp
  | cons c cs ih =>
    -- a leading NUL cuts the text to nothing; any other head is kept
    by_cases hc : c = '\x00'
    · simp [hc]
    · simp [hc, ih, Ne.symm hc]

@[simp] theorem noNul_nil : NoNul [] := by simp [NoNul]
theorem noNul_cons {c : Char} {s : Str} : NoNul (c :: s) ↔ c ≠ '\x00' ∧ NoNul s := by
  simp [NoNul, eq_comm]
theorem NoNul.cons {c : Char} {s : Str} (hc : c ≠ '\x00') (h : NoNul s) : NoNul (c :: s) := noNul_cons.mpr ⟨hc, h⟩
theorem noNul_append {a b : Str} : NoNul (a ++ b) ↔ NoNul a ∧ NoNul b := by simp [NoNul]
theorem noNul_singleton {c : Char} : NoNul [c] ↔ c ≠ '\x00' := by simp [NoNul, eq_comm]
theorem noNul_reverse {a : Str} : NoNul a.reverse ↔ NoNul a := by simp [NoNul]
theorem NoNul.sublist {a b : Str} (h : NoNul b) (hs : a.Sublist b) : NoNul a := fun hm => h (hs.subset hm)
theorem NoNul.take {a : Str} (h : NoNul a) (n : Nat) : NoNul (a.take n) := h.sublist (List.take_sublist _ _)
theorem NoNul.drop {a : Str} (h : NoNul a) (n : Nat) : NoNul (a.drop n) := h.sublist (List.drop_sublist _ _)
theorem NoNul.dropLast {a : Str} (h : NoNul a) : NoNul a.dropLast := h.sublist (List.dropLast_sublist _)
theorem NoNul.filter {a : Str} (h : NoNul a) (p : Char → Bool) : NoNul (a.filter p) := h.sublist List.filter_sublist
theorem NoNul.mem {a : Str} (h : NoNul a) {c : Char} (hc : c ∈ a) : c ≠ '\x00' := fun he => h (he ▸ hc)

/-! ### the key table -/

/-- `keycode_to_char` never yields U+0000 (checked over the regenerated table) -/
theorem keycodeToChar_ne_nul {k : Nat} {c : Char} (h : keycodeToChar k = some c) : c ≠ '\x00' :=
  keycodeToChar_all (P := (· ≠ '\x00')) (by decide +kernel) h

/-! ### the bridge to Lemmas/Provenance -/

theorem NoNul.all {s : Str} (h : NoNul s) : AllC (· ≠ '\x00') s := fun _ hc he => h (he ▸ hc)
theorem Real.AllC.noNul {s : Str} (h : AllC (· ≠ '\x00') s) : NoNul s := fun hm => h _ hm rfl

/-! ### okkhor's `convert`, poriborton's `unicode_to_bijoy` -/

/-- nothing the engine adds to a text by itself is U+0000: the replacement texts of the generated okkhor pattern table
    (kernel sweep), case folding, the joining letters -/
theorem charOk_noNul : CharOk (· ≠ '\x00') :=
  .of_sweep _ (by decide +kernel) (fun c h _ he => by subst he; cases h) (by decide)

/-- **okkhor's `convert` maps NUL-free text to NUL-free text**: every replacement of the pattern
    table is NUL-free and passed-through characters come from the (case-folded) input -/
theorem okConvert_noNul {raw : Str} (h : NoNul raw) : NoNul (okConvert raw) :=
  (okConvert_allC charOk_noNul h.all).noNul

/-- **the Bijoy encoder maps NUL-free text to NUL-free text** (the `bij` clause of `NoNulEnv` for the real encoder):
    no code point the encoder pushes by itself is U+0000 (the whole `MAP` is checked by the kernel) -/
theorem bijoy_noNul {s r : Str} (hs : NoNul s) (h : bijoy s = .ok r) : NoNul r := fun hm =>
  Bijoy.bijoy_pres (Q := (· ≠ '\x00')) (by decide +kernel) (fun _ hc _ => hs.mem hc) h _ hm rfl

/-! ### the environment, stores, memo -/

/-- the data the engine is given is NUL-free: bundled tables, dictionary words, emoji, and the two
    third-party converters map NUL-free text to NUL-free text (`okConvert_noNul` and `bijoy_noNul` prove
    the latter for the models of okkhor's parser and of poriborton's encoder) -/
structure NoNulEnv (env : Env) : Prop where
  conv : ∀ s, NoNul s → NoNul (env.convert s)
  dict : ∀ w l, env.dictPhonetic w = some l → ∀ s ∈ l, NoNul s
  sfx : ∀ k v, env.suffix k = some v → NoNul v
  ac : ∀ k v, env.autocorrect k = some v → NoNul v
  emo : ∀ k v, env.emoticon k = some v → NoNul v
  emoName : ∀ k l, env.emojiByName k = some l → ∀ s ∈ l, NoNul s
  emoBn : ∀ k l, env.emojiBengali k = some l → ∀ s ∈ l, NoNul s
  bij : ∀ s r, NoNul s → env.bijoy s = .ok r → NoNul r
  table : ∀ t, ∀ s ∈ env.fixedTable t, NoNul s

/-- every value of a user store is NUL-free (JSON strings can carry `\u0000`; this excludes it) -/
def StoreNoNul (st : Store) : Prop := ∀ k v, alookup st k = some v → NoNul v

def MemoNoNul (cache : Memo) : Prop := ∀ k e, alookup cache k = some e → ∀ r ∈ e, NoNul r.text

def RanksNoNul (l : List Rank) : Prop := ∀ r ∈ l, NoNul r.text

theorem storeNoNul_nil : StoreNoNul [] := by intro k v h; simp [alookup] at h
theorem memoNoNul_nil : MemoNoNul [] := by intro k e h; simp [alookup] at h
theorem ranksNoNul_nil : RanksNoNul [] := by intro r h; simp at h

theorem RanksNoNul.append {a b : List Rank} (ha : RanksNoNul a) (hb : RanksNoNul b) : RanksNoNul (a ++ b) := by
  intro r hr; rcases List.mem_append.mp hr with h | h
  · exact ha r h
  · exact hb r h

theorem RanksNoNul.pushChecked {v : List Rank} {r : Rank} (hv : RanksNoNul v) (hr : NoNul r.text) :
    RanksNoNul (pushChecked v r) := by
  intro x hx
  rcases mem_pushChecked hx with h | h
  · exact hv x h
  · subst h; exact hr

theorem RanksNoNul.sortStable {l : List Rank} (hl : RanksNoNul l) : RanksNoNul (sortStable l) :=
  fun r hr => hl r (mem_sortStable.mp hr)

@[simp] theorem Rank.text_newSuggestion (s b : Str) : (Rank.newSuggestion s b).text = s := rfl

/-! ### the phonetic candidate pipeline -/

theorem NoNulEnv.all {env : Env} (he : NoNulEnv env) : EnvAll (· ≠ '\x00') env :=
  ⟨fun s h => (he.conv s h.noNul).all, fun w l h s hs => (he.dict w l h s hs).all, fun k v h => (he.sfx k v h).all,
   fun k v h => (he.ac k v h).all⟩

theorem MemoNoNul.all {cache : Memo} (h : MemoNoNul cache) : MemoAll (· ≠ '\x00') cache :=
  fun k e he r hr => (h k e he r hr).all

theorem memoFill_noNul {env : Env} (he : NoNulEnv env) {ua : Store} (hua : StoreNoNul ua) {cache : Memo}
    (hc : MemoNoNul cache) (w : Str) : MemoNoNul (memoFill env ua cache w) :=
  fun k e hk r hr => (memoFill_all he.all (fun k v h => (hua k v h).all) hc.all w k e hk r hr).noNul

theorem suggestList_noNul {env : Env} (he : NoNulEnv env) (cfg : Cfg) {cache : Memo} (hc : MemoNoNul cache)
    {term : Str} (ht : NoNul term) : RanksNoNul (suggestList env cfg cache term) :=
  fun r hr => (suggestList_all he.all (fun _ k v h => (he.emo k v h).all) (fun _ k l h s hs => (he.emoName k l h s hs).all)
    charOk_noNul.join (fun _ => by decide) hc.all ht.all r hr).noNul

theorem suggestOnlyPhonetic_noNul {env : Env} (he : NoNulEnv env) {term : Str} (ht : NoNul term) :
    NoNul (suggestOnlyPhonetic env term) :=
  (suggestOnlyPhonetic_all he.all.conv ht.all).noNul

/-! ### suggestions and the phonetic method -/

/-- every text a `Suggestion` owns (auxiliary text, candidates, the single suggestion) is NUL-free -/
def NoNulSugg : Sugg → Prop
  | .full aux l _ _ => NoNul aux ∧ ∀ s ∈ l, NoNul s
  | .single s _ => NoNul s

theorem noNulSugg_empty : NoNulSugg Sugg.empty := noNul_nil

/-- the invariant of the phonetic method: buffer, memo and user auto-correct values are NUL-free
    (the learned-selections store only steers the preselected index: its texts are compared,
    never returned) -/
structure NoNulP (s : PState) : Prop where
  buffer : NoNul s.buffer
  cache : MemoNoNul s.cache
  ua : StoreNoNul s.userAutocorrect

theorem pCreateSuggestion_noNul {env : Env} (he : NoNulEnv env) (cfg : Cfg) {s : PState} (hs : NoNulP s) :
    NoNulP (pCreateSuggestion env cfg s).1 ∧ NoNulSugg (pCreateSuggestion env cfg s).2 := by
  cases hon : cfg.phoneticSuggestion with
  | false => rw [pCreate_off env cfg s hon]; exact ⟨hs, suggestOnlyPhonetic_noNul he hs.buffer⟩
  | true =>
    have hc := memoFill_noNul he hs.ua hs.cache (word s.buffer)
    refine ⟨⟨pCreate_buffer env cfg s ▸ hs.buffer, pCreate_cache_on env cfg s hon ▸ hc,
      pCreate_ua env cfg s ▸ hs.ua⟩, ?_⟩
    rw [pCreate_on env cfg s hon, suggest_list, preparedParts_word]
    exact ⟨hs.buffer, List.forall_mem_map.2 (suggestList_noNul he cfg hc hs.buffer)⟩

theorem pRefresh_noNul {env : Env} (he : NoNulEnv env) (cfg : Cfg) {s : PState} (hs : NoNulP s) :
    NoNulP (pRefresh env cfg s).1 ∧ NoNulSugg (pRefresh env cfg s).2 :=
  ite_ind (Q := fun r : PState × Sugg => NoNulP r.1 ∧ NoNulSugg r.2) (fun _ => ⟨hs, noNulSugg_empty⟩)
    (fun _ => pCreateSuggestion_noNul he cfg hs)

theorem NoNulSugg.mapIndex {sg : Sugg} (h : NoNulSugg sg) (f : Nat → Nat) : NoNulSugg (sg.mapIndex f) := by
  cases sg <;> exact h

theorem pKey_noNul {env : Env} (he : NoNulEnv env) (cfg : Cfg) {s : PState} (hs : NoNulP s) (key sel : Nat) :
    NoNulP (pKey env cfg s key sel).1 ∧ NoNulSugg (pKey env cfg s key sel).2 := by
  have hb : NoNul (keyBuffer s.buffer key) := Real.AllC.noNul (keyBuffer_all keycodeToChar_ne_nul hs.buffer.all key)
  have h := pRefresh_noNul he cfg (s := { s with buffer := keyBuffer s.buffer key }) ⟨hb, hs.cache, hs.ua⟩
  rw [pKey_eq]
  exact ⟨h.1, h.2.mapIndex _⟩

theorem pBackspace_noNul {env : Env} (he : NoNulEnv env) (cfg : Cfg) {s : PState} (hs : NoNulP s) (ctrl : Bool) :
    NoNulP (pBackspace env cfg s ctrl).1 ∧ NoNulSugg (pBackspace env cfg s ctrl).2 := by
  rw [pBackspace_eq]
  exact pRefresh_noNul he cfg
    ⟨ite_ind (Q := NoNul) (fun _ => noNul_nil) (fun _ => hs.buffer.dropLast), hs.cache, hs.ua⟩

theorem pCommit_noNul {cfg : Cfg} {s s' : PState} {wr : Option Store} {i : Nat} (hs : NoNulP s)
    (h : pCommit cfg s i = .ok (s', wr)) : NoNulP s' := by
  rw [(pCommit_ok h).1]
  exact ⟨noNul_nil, hs.cache, hs.ua⟩

theorem pFinish_noNul {s : PState} (hs : NoNulP s) : NoNulP (pFinish s) := ⟨noNul_nil, hs.cache, hs.ua⟩

/-- the user auto-correct file, as far as it parses, holds NUL-free values -/
def NoNulFS (fs : FS) : Prop := ∀ t st, fs.ac = some (t, some st) → StoreNoNul st

theorem pNew_noNul {fs : FS} (hfs : NoNulFS fs) : NoNulP (pNew fs) := by
  refine ⟨noNul_nil, memoNoNul_nil, ?_⟩
  rw [pNew_userAutocorrect]
  rcases hac : fs.ac with _ | ⟨t, _ | st⟩
  · exact storeNoNul_nil
  · exact storeNoNul_nil
  · exact hfs t st hac

theorem pUpdate_noNul {fs : FS} (hfs : NoNulFS fs) {s : PState} (hs : NoNulP s) : NoNulP (pUpdate fs s) := by
  rcases pUpdate_four fs s with ⟨t, parsed, hac, _, e⟩ | ⟨_, _, _, _, e⟩ | ⟨_, _, e⟩ | ⟨_, _, e⟩ <;> rw [e]
  · refine ⟨hs.buffer, memoNoNul_nil, ?_⟩
    cases parsed with
    | none => exact storeNoNul_nil
    | some st => exact hfs t st hac
  · exact hs
  · exact ⟨hs.buffer, memoNoNul_nil, storeNoNul_nil⟩
  · exact hs

end Riti
