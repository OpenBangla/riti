/-
Lemmas/EditDistance — the row-by-row `editDistance` of Model/Rank (the `edit-distance` crate) against
the textbook Levenshtein recursion `lev` and the declarative edit scripts `Script`:
definitions (`Riti.EditDistance.lev`, `Riti.EditDistance.Script`), Lipschitz bounds, `lev` as the cost of a
cheapest script and from that reversal invariance and the step of the triangle inequality
(`lev_le_script_add`), the row invariant of `edRow`/`edLoop` (`edLoop_spec`).
The statements meant for readers are in Props/EditDistance.
-/
import RitiModel.Model.Rank
namespace Riti
namespace EditDistance

section Defs
variable {α : Type} [DecidableEq α]

/-- the cost of putting `x` opposite `y`: nothing if they are the same character, one substitution otherwise -/
def subCost (x y : α) : Nat := if x = y then 0 else 1

/-- `lev (x :: a)` as a function of the second word, given `f = lev a` and `n = |x :: a|`
    (this splitting makes `lev` structurally recursive, hence kernel-reducible) -/
def levAux (x : α) (f : List α → Nat) (n : Nat) : List α → Nat
  | [] => n
  | y :: b => min (f (y :: b) + 1) (min (levAux x f n b + 1) (f b + subCost x y))

/-- The textbook Levenshtein recursion, with the minimum of three in both cases:
    `lev [] b = |b|`, `lev a [] = |a|`,
    `lev (x::a) (y::b) = min (lev a (y::b) + 1) (min (lev (x::a) b + 1) (lev a b + if x = y then 0 else 1))`
    (see `lev_nil_left`, `lev_nil_right`, `lev_cons_cons`; the `if x = y then lev a b else 1 + min …`
    form is `lev_cons_cons_textbook` there). -/
def lev : List α → List α → Nat
  | [] => fun b => b.length
  | x :: a => levAux x (lev a) (a.length + 1)

end Defs

/-- Edit scripts: `Script a b n` — `a` can be turned into `b` by a left-to-right script that keeps a
    common character (cost 0), substitutes a character by a different one, deletes a character of
    `a` or inserts a character of `b` (cost 1 each), at total cost `n`. -/
inductive Script {α : Type} : List α → List α → Nat → Prop
  | nil : Script [] [] 0
  | keep (x : α) {a b : List α} {n : Nat} : Script a b n → Script (x :: a) (x :: b) n
  | subst (x y : α) {a b : List α} {n : Nat} : x ≠ y → Script a b n → Script (x :: a) (y :: b) (n + 1)
  | delete (x : α) {a b : List α} {n : Nat} : Script a b n → Script (x :: a) b (n + 1)
  | insert (y : α) {a b : List α} {n : Nat} : Script a b n → Script a (y :: b) (n + 1)

end EditDistance

open EditDistance

section Generic
set_option linter.unusedSectionVars false
variable {α : Type} [DecidableEq α]

theorem subCost_le_one (x y : α) : subCost x y ≤ 1 := by unfold subCost; split <;> omega
theorem subCost_self (x : α) : subCost x x = 0 := by simp [subCost]
theorem subCost_comm (x y : α) : subCost x y = subCost y x := by
  simp only [subCost, eq_comm]
theorem subCost_eq_zero {x y : α} : subCost x y = 0 ↔ x = y := by
  unfold subCost; split <;> simp [*]

theorem subCost_triangle (x y z : α) : subCost x z ≤ subCost x y + subCost y z := by
  unfold subCost
  by_cases h1 : x = y
  · subst h1; simp
  · simp only [h1, if_false]; split <;> omega

theorem lev_nil_left_aux (b : List α) : lev [] b = b.length := rfl
theorem lev_nil_right_aux (a : List α) : lev a [] = a.length := by cases a <;> rfl
theorem lev_cons_cons_subCost (x y : α) (a b : List α) :
    lev (x :: a) (y :: b)
      = min (lev a (y :: b) + 1) (min (lev (x :: a) b + 1) (lev a b + subCost x y)) := rfl

theorem lev_induct {P : List α → List α → Prop} (nilL : ∀ b, P [] b) (nilR : ∀ x a, P (x :: a) [])
    (cc : ∀ x a y b, P a (y :: b) → P (x :: a) b → P a b → P (x :: a) (y :: b)) : ∀ a b, P a b := by
  intro a
  induction a with
  | nil => exact nilL
  | cons x a ih =>
    intro b
    induction b with
    | nil => exact nilR x a
    | cons y b ihb => exact cc x a y b (ih _) ihb (ih _)

/-! ### Lipschitz bounds: one more character on either side moves the distance by at most one -/

theorem lev_cons_left_le (x : α) (a c : List α) : lev (x :: a) c ≤ lev a c + 1 := by
  cases c with
  | nil => simp [lev_nil_right_aux]
  | cons z c => rw [lev_cons_cons_subCost]; omega

theorem lev_cons_right_le (y : α) (a c : List α) : lev a (y :: c) ≤ lev a c + 1 := by
  cases a with
  | nil => simp [lev_nil_left_aux]
  | cons x a => rw [lev_cons_cons_subCost]; omega

theorem lev_cons_cons_le (x y : α) (a c : List α) : lev (x :: a) (y :: c) ≤ lev a c + subCost x y := by
  rw [lev_cons_cons_subCost]; omega

theorem lev_le_cons_left (x : α) (a c : List α) : lev a c ≤ lev (x :: a) c + 1 := by
  induction c with
  | nil => simp only [lev_nil_right_aux, List.length_cons]; omega
  | cons z c ih => have := lev_cons_right_le z a c; rw [lev_cons_cons_subCost]; omega

/-! ### scripts: `lev` is the cost of a cheapest one; reversal; the step of the triangle inequality -/

theorem script_nil_left (b : List α) : Script [] b b.length := by
  induction b with
  | nil => exact .nil
  | cons y b ih => exact .insert y ih

theorem script_symm {a b : List α} {n : Nat} (h : Script a b n) : Script b a n := by
  induction h with
  | nil => exact .nil
  | keep x _ ih => exact .keep x ih
  | subst x y hxy _ ih => exact .subst y x (fun e => hxy e.symm) ih
  | delete x _ ih => exact .insert x ih
  | insert y _ ih => exact .delete y ih

theorem script_nil_right (a : List α) : Script a [] a.length := script_symm (script_nil_left a)

theorem script_lower_bound {a b : List α} {n : Nat} (h : Script a b n) : lev a b ≤ n := by
  induction h with
  | nil => simp [lev_nil_left_aux]
  | @keep x a b n _ ih => have := lev_cons_cons_le x x a b; rw [subCost_self] at this; omega
  | @subst x y a b n _ _ ih => have := lev_cons_cons_le x y a b; have := subCost_le_one x y; omega
  | @delete x a b n _ ih => have := lev_cons_left_le x a b; omega
  | @insert y a b n _ ih => have := lev_cons_right_le y a b; omega

theorem script_of_lev (a b : List α) : Script a b (lev a b) := by
  induction a, b using lev_induct with
  | nilL b => exact script_nil_left b
  | nilR x a => rw [lev_nil_right_aux]; exact script_nil_right _
  | cc x a y b ih1 ih2 ih3 =>
    -- the distance is one of its three arms, and each arm extends a script
    have h : lev (x :: a) (y :: b) = lev a (y :: b) + 1 ∨ lev (x :: a) (y :: b) = lev (x :: a) b + 1 ∨
        lev (x :: a) (y :: b) = lev a b + subCost x y := by rw [lev_cons_cons_subCost]; omega
    rcases h with h | h | h <;> rw [h]
    · exact .delete x ih1
    · exact .insert y ih2
    · by_cases hxy : x = y
      · subst hxy; rw [subCost_self]; exact .keep x ih3
      · rw [show subCost x y = 1 by simp [subCost, hxy]]; exact .subst x y hxy ih3

theorem script_append {a b c d : List α} {n m : Nat} (h : Script a b n) (h' : Script c d m) :
    Script (a ++ c) (b ++ d) (n + m) := by
  induction h with
  | nil => simpa using h'
  | keep z _ ih => exact .keep z ih
  | subst z w hzw _ ih => rw [Nat.add_right_comm]; exact .subst z w hzw ih
  | delete z _ ih => rw [Nat.add_right_comm]; exact .delete z ih
  | insert w _ ih => rw [Nat.add_right_comm]; exact .insert w ih

theorem script_reverse {a b : List α} {n : Nat} (h : Script a b n) : Script a.reverse b.reverse n := by
  induction h with
  | nil => exact .nil
  | keep x _ ih => simpa using script_append ih (.keep x .nil)
  | subst x y hxy _ ih => simpa using script_append ih (.subst x y hxy .nil)
  | delete x _ ih => simpa using script_append ih (.delete x .nil)
  | insert y _ ih => simpa using script_append ih (.insert y .nil)

theorem lev_reverse_le (a b : List α) : lev a.reverse b.reverse ≤ lev a b :=
  script_lower_bound (script_reverse (script_of_lev a b))

theorem lev_reverse (a b : List α) : lev a.reverse b.reverse = lev a b := by
  apply Nat.le_antisymm (lev_reverse_le a b)
  have := lev_reverse_le a.reverse b.reverse
  simpa using this

/-- the heart of the triangle inequality: a script from `a` to `b` of cost `n` moves the distance to
    any third word by at most `n` -/
theorem lev_le_script_add {a b : List α} {n : Nat} (h : Script a b n) : ∀ c, lev a c ≤ n + lev b c := by
  -- putting `x` opposite `y` moves the distance by at most `subCost x y`: the `keep` and the `subst` step
  have step : ∀ {x y : α} {a b : List α} {n : Nat}, (∀ c, lev a c ≤ n + lev b c) →
      ∀ c, lev (x :: a) c ≤ n + subCost x y + lev (y :: b) c := by
    intro x y a b n ih c
    induction c with
    | nil => have := ih []; simp only [lev_nil_right_aux, List.length_cons] at this ⊢; omega
    | cons z c ihc =>
      rw [lev_cons_cons_subCost y z b c]
      have h1 := lev_cons_left_le x a (z :: c)
      have h2 := lev_cons_right_le z (x :: a) c
      have h3 := lev_cons_cons_le x z a c
      have := subCost_triangle x y z
      have := ih (z :: c); have := ih c
      omega
  induction h with
  | nil => intro c; omega
  | @keep x a b n _ ih => intro c; simpa [subCost_self] using step (x := x) (y := x) ih c
  | @subst x y a b n _ _ ih =>
    intro c
    have := step (x := x) (y := y) ih c
    have := subCost_le_one x y
    omega
  | @delete x a b n _ ih =>
    intro c
    have := lev_cons_left_le x a c
    have := ih c
    omega
  | @insert y a b n _ ih =>
    intro c
    have := lev_le_cons_left y b c
    have := ih c
    omega

end Generic

/-! ### the row invariant of `edRow` / `edLoop`

`ra`, `rb` are the processed prefixes of the two words, REVERSED (so that one more character is a
`cons`); the row after the prefix `ra` is `[lev ra (b.take j).reverse | j = 0 … |b|]`. -/

/-- the entries `j+1 …` of the row of `ra`, where `rb` is the reversed prefix `b.take j` and `bs` the rest of `b` -/
def levRowFrom (ra rb : List Char) : List Char → List Nat
  | [] => []
  | c :: bs => lev ra (c :: rb) :: levRowFrom ra (c :: rb) bs

def levRow (ra b : List Char) : List Nat := lev ra [] :: levRowFrom ra [] b

theorem edRow_spec (ca : Char) (ra : List Char) (bs rb : List Char) :
    edRow ca bs (levRowFrom ra rb bs) (lev ra rb) (lev (ca :: ra) rb) = levRowFrom (ca :: ra) rb bs := by
  induction bs generalizing rb with
  | nil => rfl
  | cons cb bs ih =>
    simp only [levRowFrom, edRow]
    have hv : min (lev ra (cb :: rb) + 1) (min (lev (ca :: ra) rb + 1) (lev ra rb + if (ca == cb) = true then 0 else 1))
        = lev (ca :: ra) (cb :: rb) := by
      rw [lev_cons_cons_subCost]; simp [subCost]
    rw [hv, ih]

theorem levRowFrom_nil (rb bs : List Char) : levRowFrom [] rb bs = List.range' (rb.length + 1) bs.length := by
  induction bs generalizing rb with
  | nil => rfl
  | cons c bs ih => simp [levRowFrom, ih, lev_nil_left_aux, List.range'_succ]

theorem levRow_nil (b : List Char) : levRow [] b = List.range (b.length + 1) := by
  simp [levRow, levRowFrom_nil, lev_nil_left_aux, List.range_eq_range', List.range'_succ]

theorem edLoop_spec (b as ra : List Char) :
    edLoop b as ra.length (levRow ra b) = levRow (as.reverse ++ ra) b := by
  induction as generalizing ra with
  | nil => rfl
  | cons ca as ih =>
    simp only [List.reverse_cons, List.append_assoc, List.singleton_append]
    rw [← ih (ca :: ra)]
    simp only [edLoop, levRow, List.length_cons]
    have h1 : lev (ca :: ra) [] = ra.length + 1 := by simp [lev_nil_right_aux]
    rw [← h1, edRow_spec, h1]

theorem levRowFrom_getLastD (ra rb bs : List Char) :
    (levRowFrom ra rb bs).getLastD (lev ra rb) = lev ra (bs.reverse ++ rb) := by
  induction bs generalizing rb with
  | nil => rfl
  | cons c bs ih =>
    simp only [levRowFrom, List.getLastD_cons, ih, List.reverse_cons, List.append_assoc, List.singleton_append]

theorem levRow_getLastD (ra b : List Char) : (levRow ra b).getLastD 0 = lev ra b.reverse := by
  simp only [levRow, List.getLastD_cons, levRowFrom_getLastD, List.append_nil]

/-- the crate's rows hold the distances between prefixes and `lev` peels heads, hence the reversed words
    (`lev_reverse` turns them back: `editDistance_eq_lev` of Props/EditDistance) -/
theorem editDistance_eq_lev_reverse (a b : List Char) : editDistance a b = lev a.reverse b.reverse := by
  unfold editDistance
  rw [← levRow_nil, show edLoop b a 0 (levRow [] b) = _ from edLoop_spec b a [], levRow_getLastD]
  simp

end Riti
