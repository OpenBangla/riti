/-
Props/C02Selection — when exactly can the caller's selection byte fall outside the list (C02, the narrowed known
finding `C02.override_out_of_range`).

After a punctuation key of the override set (`! " ' ) , - . : ; ? ] _ }`) the engine returns the CALLER'S selection byte
as the preselected index, unvalidated.  The byte was valid for the list shown BEFORE the key.  This file shows that the
new list cannot be shorter — so the byte is still valid — unless the key changed the WORD PART of the composition or an
emoticon of the table is involved, and says which keys change the word part:

 * `parts_of_meta`, `word_same_iff`, `override_word_same_iff` — a punctuation character (`isMeta`) NEVER changes the
   word part, whatever the text ends in; among all characters the only other case is the escape character right after
   punctuation that follows a word; of the 13 override keys exactly ONE changes the word part, always: the colon.
 * `list_same_word_partial`, `list_skeleton_same_word_partial`, `list_length_same_word_iff`, `list_length_same_word_no_english`,
   `list_length_le_same_word` — same memo, same word part, no emoticon before or after: the two lists are the same
   candidates position by position up to the punctuation wrapped around them, PROVIDED the raw typed text (English option)
   is appended in both or in neither.  `list_length_same_word_fails`: that proviso is needed (the real transliterator
   leaves `,` alone and turns `.` into a danda: `,` has 1 candidate, `,.` has 2).
 * `override_in_range_same_word_partial`, `override_in_range_same_word_no_english`, `override_in_range_unless_colon_partial`,
   `key_list_length_same_word_partial` — the key step, from any state left by `create_suggestion` (`Shown`): index clause of C02.
   `override_same_word_out_of_range`: without the raw-text proviso an ABSTRACT transliterator can make the list shrink
   with the word part unchanged (needs a transliterator that maps `..` to itself but `.` to something else).
 * non-vacuity: `ami` + `.` (hypotheses hold, 3 candidates before and after, caller's index 2 kept and valid);
   `cool` + `:` (word part changes, 4 → 1 candidates, caller's index 3 out of range).

No memo invariant is needed: the statements hold for EVERY memo (`cache`), clean or not, because both lists are built
from the same memo and the length of the dictionary stage depends on the memo and the word part only.
-/
import RitiModel.Props.C02
import RitiModel.Lemmas.C02Selection
namespace Riti.C02Selection
open Riti Riti.Gen

/-! ## 1. which appended characters leave the word part unchanged -/

/-- a punctuation key (any of `metaSet`; every override key except the colon is one) never changes the word part of
    the composition, whatever the text typed before it ends in (`word_snoc_meta`): it extends the leading part while no
    word has started, the trailing part afterwards -/
theorem parts_of_meta (t : Str) (c : Char) (hc : isMeta c = true) :
    split (t ++ [c]) false =
      if t.dropWhile isMeta = [] then ⟨t ++ [c], [], []⟩
      else ⟨(split t false).pre, (split t false).word, (split t false).trail ++ [c]⟩ := split_concat_meta t c false hc

/-- **the precise condition**: one more character keeps the word part iff it is punctuation, or it is the escape
    character typed right after punctuation that follows a word (it then joins the trailing part) -/
theorem word_same_iff (t : Str) (c : Char) :
    (split (t ++ [c]) false).word = (split t false).word ↔
      isMeta c = true ∨ (c = '`' ∧ t.dropWhile isMeta ≠ [] ∧ ∃ x, t.getLast? = some x ∧ isMeta x = true) := by
  show word (t ++ [c]) = word t ↔ _
  by_cases hc : isMeta c = true
  · simp [hc, word_snoc_meta t c hc]
  · by_cases hb : c = '`'
    · subst hb
      exact (word_snoc_backtick_iff t).trans (by simp [hc])
    · simpa [hc, hb] using word_snoc_nonmeta_ne t c (by simpa using hc) (by simpa using hb)

/-- every other key joins the word part and swallows the trailing part: the word part becomes everything after the
    leading punctuation (this is what the colon does to `cool`, and to `cool.`) -/
theorem word_of_nonmeta (t : Str) (c : Char) (hc : isMeta c = false) (hb : c ≠ '`') :
    (split (t ++ [c]) false).word = t.dropWhile isMeta ++ [c] := by
  -- the new character lands behind the leading punctuation, and the scan from the right stops at it
  have hd : (t ++ [c]).dropWhile isMeta = t.dropWhile isMeta ++ [c] := by
    by_cases h : t.dropWhile isMeta = []
    · rw [dropWhile_snoc_nil t c h, hc, h]; rfl
    · exact dropWhile_snoc_ne t c h
  show word (t ++ [c]) = _
  rw [word_def, hd, List.reverse_append, List.reverse_singleton, List.singleton_append,
    tlen_cons_stop false _ hc (by simpa using hb) rfl]
  exact List.take_of_length_le (by simp)

theorem override_meta_or_colon (c : Char) (ho : isPunctOverride c = true) : isMeta c = true ∨ c = ':' := by
  have h : punctOverrideSet.all (fun n => metaSet.contains n || n == 58) = true := by decide +kernel
  have hc : c.toNat ∈ punctOverrideSet := by simpa [isPunctOverride] using ho
  have := List.all_eq_true.mp h _ hc
  simp only [Bool.or_eq_true, beq_iff_eq] at this
  exact this.imp_right fun h => Char.ext (UInt32.toNat_inj.mp h)

/-- **of the override keys exactly the colon changes the word part, and it always does** -/
theorem override_word_same_iff (t : Str) (c : Char) (ho : isPunctOverride c = true) :
    (split (t ++ [c]) false).word = (split t false).word ↔ c ≠ ':' := by
  rcases override_meta_or_colon c ho with h | rfl
  · exact iff_of_true (word_snoc_meta t c h) (beq_eq_false_iff_ne.mp (meta_ne_colon c h))
  · exact iff_of_false (word_snoc_nonmeta_ne t ':' (by decide) (by decide)) (fun h => h rfl)

/-! ## 2. the two lists, same memo, same word part, no emoticon -/

/-- how the candidates at one position of the two lists are related: the same core candidate with the old / new
    punctuation wrapped around it, or the raw typed text (old / new) -/
def SameItem (env : Env) (cfg : Cfg) (t : Str) (c : Char) (a b : Rank) : Prop :=
  (∃ r, a = wrapR (preparedParts env cfg t).pre (preparedParts env cfg t).trail r ∧
        b = wrapR (preparedParts env cfg (t ++ [c])).pre (preparedParts env cfg (t ++ [c])).trail r) ∨
  (a = .last t 3 ∧ b = .last (t ++ [c]) 3)

theorem coreItems_same_word {env : Env} (cfg : Cfg) (cache : Memo) {t : Str} {c : Char}
    (hw : (split (t ++ [c]) false).word = (split t false).word)
    (he1 : env.emoticon t = none) (he2 : env.emoticon (t ++ [c]) = none) :
    coreItems env cfg cache (t ++ [c]) (preparedParts env cfg (t ++ [c])).word =
      coreItems env cfg cache t (preparedParts env cfg t).word := by
  rw [coreItems, coreItems, he1, he2, preparedParts_word, preparedParts_word, show word (t ++ [c]) = word t from hw]

theorem rawAdded_no_english {env : Env} {cfg : Cfg} {cache : Memo} {term : Str} (h : cfg.english = false) :
    rawAdded env cfg cache term = false := by
  simp [rawAdded, h]

/-- the raw typed text IS appended when the English option is on, the text is not pure untouched punctuation and no candidate
    already has that text (the normal case: candidates are Bengali, the typed text is ASCII) -/
theorem rawAdded_fresh (env : Env) (cfg : Cfg) (cache : Memo) (term : Str) (h : cfg.english = true)
    (hne : term ≠ (preparedParts env cfg term).pre)
    (hfresh : term ∉ (C07.beforeEnglish env cfg cache term).map Rank.text) :
    rawAdded env cfg cache term = true := by
  have : (C07.beforeEnglish env cfg cache term).any (fun x => x.sameText (.last term 3)) = false :=
    Bool.eq_false_iff.mpr fun ha => hfresh (text_mem_of_any.mp ha)
  simp [rawAdded, h, hne, this]

/-- **same candidates up to the wrapping** — PARTIAL.  Same memo, the appended character leaves the word part
    unchanged, neither text is an emoticon of the table: the list for `t ++ [c]` is, position by position, the list for
    `t` with the new punctuation wrapped around each candidate instead of the old (and the new raw text instead of the
    old).  Excluded (`hraw`): English option on and the raw typed text appended as a candidate for exactly one of the
    two texts — `push_checked` drops it when it coincides with a candidate or when the text is punctuation the
    transliterator leaves alone (`list_length_same_word_fails`). -/
theorem list_same_word_partial {env : Env} {cfg : Cfg} {cache : Memo} {t : Str} {c : Char}
    (hw : (split (t ++ [c]) false).word = (split t false).word)
    (he1 : env.emoticon t = none) (he2 : env.emoticon (t ++ [c]) = none)
    (hraw : rawAdded env cfg cache (t ++ [c]) = rawAdded env cfg cache t) :
    Rel2 (SameItem env cfg t c) (suggestList env cfg cache t) (suggestList env cfg cache (t ++ [c])) := by
  refine sort_addExtras_rel2 (fun _ _ h => by rw [h.1, h.2]; rfl) ?_ (coreItems_same_word cfg cache hw he1 he2).symm
  rw [rawsAt_eq cfg cache he1, rawsAt_eq cfg cache he2, hraw]
  split
  · exact .cons ⟨rfl, rfl⟩ .nil
  · exact .nil

/-- … in particular the candidates at each position are of the same kind and carry the same number -/
theorem list_skeleton_same_word_partial (env : Env) (cfg : Cfg) (cache : Memo) (t : Str) (c : Char)
    (hw : (split (t ++ [c]) false).word = (split t false).word)
    (he1 : env.emoticon t = none) (he2 : env.emoticon (t ++ [c]) = none)
    (hraw : rawAdded env cfg cache (t ++ [c]) = rawAdded env cfg cache t) :
    (suggestList env cfg cache (t ++ [c])).map skel = (suggestList env cfg cache t).map skel :=
  ((list_same_word_partial hw he1 he2 hraw).mono (by
    rintro _ _ (⟨r, rfl, rfl⟩ | ⟨rfl, rfl⟩)
    · simp
    · rfl)).map_eq.symm

/-- **the exact length statement**: same memo, word part unchanged, no emoticon before or after — the two lists have
    the same number of candidates IF AND ONLY IF the raw typed text is appended for both texts or for neither -/
theorem list_length_same_word_iff (env : Env) (cfg : Cfg) (cache : Memo) (t : Str) (c : Char)
    (hw : (split (t ++ [c]) false).word = (split t false).word)
    (he1 : env.emoticon t = none) (he2 : env.emoticon (t ++ [c]) = none) :
    (suggestList env cfg cache (t ++ [c])).length = (suggestList env cfg cache t).length ↔
      rawAdded env cfg cache (t ++ [c]) = rawAdded env cfg cache t := by
  rw [suggestList_length cfg cache he1, suggestList_length cfg cache he2, coreItems_same_word cfg cache hw he1 he2]
  cases rawAdded env cfg cache (t ++ [c]) <;> cases rawAdded env cfg cache t <;> simp

/-- the length statement at full strength when the English option is off (or ANSI is on): every table, every memo -/
theorem list_length_same_word_no_english (env : Env) (cfg : Cfg) (cache : Memo) (t : Str) (c : Char)
    (hw : (split (t ++ [c]) false).word = (split t false).word)
    (he1 : env.emoticon t = none) (he2 : env.emoticon (t ++ [c]) = none) (heng : cfg.english = false) :
    (suggestList env cfg cache (t ++ [c])).length = (suggestList env cfg cache t).length :=
  (list_length_same_word_iff env cfg cache t c hw he1 he2).mpr
    (by rw [rawAdded_no_english heng, rawAdded_no_english heng])

/-- what the index clause needs: the list does not SHRINK as soon as the raw text is not dropped by the key -/
theorem list_length_le_same_word (env : Env) (cfg : Cfg) (cache : Memo) (t : Str) (c : Char)
    (hw : (split (t ++ [c]) false).word = (split t false).word)
    (he1 : env.emoticon t = none) (he2 : env.emoticon (t ++ [c]) = none)
    (hraw : rawAdded env cfg cache t = true → rawAdded env cfg cache (t ++ [c]) = true) :
    (suggestList env cfg cache t).length ≤ (suggestList env cfg cache (t ++ [c])).length := by
  rw [suggestList_length cfg cache he1, suggestList_length cfg cache he2, coreItems_same_word cfg cache hw he1 he2]
  refine Nat.add_le_add_left ?_ _
  cases h1 : rawAdded env cfg cache t with
  | false => exact Nat.zero_le _
  | true => rw [hraw h1]; exact Nat.le_refl _

/-! ## 3. the key step -/

/-- the state right after a suggestion for the composition was built (by a key or a backspace): the stored list is the
    list of the composition over the stored memo, which has an entry for its word part -/
def Shown (env : Env) (cfg : Cfg) (s : PState) : Prop :=
  s.suggestions = suggestList env cfg s.cache s.buffer ∧ (alookup s.cache (word s.buffer)).isSome = true

/-- `create_suggestion` (suggestions on) leaves such a state — from any state whatever (no invariant) -/
theorem shown_create (env : Env) (cfg : Cfg) (s : PState) (hon : cfg.phoneticSuggestion = true) :
    Shown env cfg (pCreateSuggestion env cfg s).1 := by
  refine ⟨?_, ?_⟩
  · rw [pCreate_buffer, pCreate_cache_on env cfg s hon, pCreate_on env cfg s hon]
    show (suggest env cfg s s.buffer).1.suggestions = _
    rw [← preparedParts_word env cfg s.buffer, ← suggest_list]
    simp [suggest]
  · rw [pCreate_buffer, pCreate_cache_on env cfg s hon]
    exact memoFill_isSome _ _ _ _

/-- the list returned for a key that leaves the word part unchanged is the list of the longer text over the SAME memo -/
theorem key_list_same_memo {env : Env} {cfg : Cfg} {s : PState} {c : Char} (hon : cfg.phoneticSuggestion = true)
    (hs : Shown env cfg s) (hw : (split (s.buffer ++ [c]) false).word = (split s.buffer false).word) :
    (pCreateSuggestion env cfg { s with buffer := s.buffer ++ [c] }).2 =
      .full (s.buffer ++ [c]) ((suggestList env cfg s.cache (s.buffer ++ [c])).map Rank.text)
        (suggest env cfg { s with buffer := s.buffer ++ [c] } (s.buffer ++ [c])).2.2 cfg.ansi := by
  have hw' : word (s.buffer ++ [c]) = word s.buffer := hw
  rw [pCreate_on env cfg _ hon]
  simp only [suggest_list, preparedParts_word, hw', memoFill_of_isSome env _ s.cache _ hs.2]

/-- **the caller's byte stays inside the list** — PARTIAL.  Suggestions on; `s` is a state in which the list of the
    composition was just shown (`Shown`: any state left by `create_suggestion`, `shown_create`); the key types a character
    that leaves the word part unchanged; neither the old nor the new text is an emoticon of the table; the caller's byte
    `sel` is inside the list shown.  Then the suggestion returned for the key is well-formed (`C02.WF`: list non-empty,
    preselected index — the caller's byte for an override key — inside the list, auxiliary text = composition).
    Excluded (`hraw`): the key makes the raw-text candidate of the English option disappear
    (`override_same_word_out_of_range`; vacuous when that option is off: `override_in_range_same_word_no_english`). -/
theorem override_in_range_same_word_partial (env : Env) (cfg : Cfg) (s : PState) (key sel : Nat) (c : Char)
    (hon : cfg.phoneticSuggestion = true) (hs : Shown env cfg s) (hk : keycodeToChar key = some c)
    (hw : (split (s.buffer ++ [c]) false).word = (split s.buffer false).word)
    (he1 : env.emoticon s.buffer = none) (he2 : env.emoticon (s.buffer ++ [c]) = none)
    (hraw : rawAdded env cfg s.cache s.buffer = true → rawAdded env cfg s.cache (s.buffer ++ [c]) = true)
    (hsel : sel < s.suggestions.length) :
    C02.WF (s.buffer ++ [c]) (pKey env cfg s key sel).2 := by
  have hwf := C02.phonetic_key_wf_partial env cfg s key sel (by
    intro ch hch _ aux l e a hfull
    obtain rfl : c = ch := Option.some.inj (hk.symm.trans hch)
    rw [key_list_same_memo hon hs hw] at hfull
    cases hfull
    rw [List.length_map]
    exact Nat.lt_of_lt_of_le (hs.1 ▸ hsel) (list_length_le_same_word env cfg s.cache s.buffer c hw he1 he2 hraw))
  rwa [pKey_buffer, keyBuffer, hk] at hwf

/-- … and the preselected index of that suggestion is the caller's byte when the key is an override key -/
theorem override_index (env : Env) (cfg : Cfg) (s : PState) (key sel : Nat) (c : Char)
    (hon : cfg.phoneticSuggestion = true) (hk : keycodeToChar key = some c) (ho : isPunctOverride c = true) :
    ∃ aux l a, (pKey env cfg s key sel).2 = .full aux l sel a := by
  rw [pKey_of_char env cfg s sel hk, pCreate_on env cfg _ hon]
  simp only [Sugg.mapIndex, ho, if_true]
  exact ⟨_, _, _, rfl⟩

/-- the list returned for such a key has exactly as many candidates as the list shown before it — PARTIAL: the raw
    typed text is appended for both texts or for neither (`list_length_same_word_iff`: exactly what is needed) -/
theorem key_list_length_same_word_partial (env : Env) (cfg : Cfg) (s : PState) (key sel : Nat) (c : Char)
    (hon : cfg.phoneticSuggestion = true) (hs : Shown env cfg s) (hk : keycodeToChar key = some c)
    (hw : (split (s.buffer ++ [c]) false).word = (split s.buffer false).word)
    (he1 : env.emoticon s.buffer = none) (he2 : env.emoticon (s.buffer ++ [c]) = none)
    (hraw : rawAdded env cfg s.cache (s.buffer ++ [c]) = rawAdded env cfg s.cache s.buffer) :
    ∃ aux l e a, (pKey env cfg s key sel).2 = .full aux l e a ∧ l.length = s.suggestions.length := by
  rw [pKey_of_char env cfg s sel hk, key_list_same_memo hon hs hw]
  refine ⟨_, _, _, _, rfl, ?_⟩
  rw [List.length_map, hs.1]
  exact (list_length_same_word_iff env cfg s.cache s.buffer c hw he1 he2).mpr hraw

/-- the key step at full strength when the English option is off -/
theorem override_in_range_same_word_no_english (env : Env) (cfg : Cfg) (s : PState) (key sel : Nat) (c : Char)
    (hon : cfg.phoneticSuggestion = true) (hs : Shown env cfg s) (hk : keycodeToChar key = some c)
    (hw : (split (s.buffer ++ [c]) false).word = (split s.buffer false).word)
    (he1 : env.emoticon s.buffer = none) (he2 : env.emoticon (s.buffer ++ [c]) = none)
    (heng : cfg.english = false) (hsel : sel < s.suggestions.length) :
    C02.WF (s.buffer ++ [c]) (pKey env cfg s key sel).2 :=
  override_in_range_same_word_partial env cfg s key sel c hon hs hk hw he1 he2
    (by intro h; rw [rawAdded_no_english heng] at h; cases h) hsel

/-- **the known finding is confined to the colon and the emoticons**: for an override key other than the colon the
    hypothesis on the word part holds by itself (same PARTIAL proviso on the raw-text item) -/
theorem override_in_range_unless_colon_partial (env : Env) (cfg : Cfg) (s : PState) (key sel : Nat) (c : Char)
    (hon : cfg.phoneticSuggestion = true) (hs : Shown env cfg s) (hk : keycodeToChar key = some c)
    (ho : isPunctOverride c = true) (hcolon : c ≠ ':')
    (he1 : env.emoticon s.buffer = none) (he2 : env.emoticon (s.buffer ++ [c]) = none)
    (hraw : rawAdded env cfg s.cache s.buffer = true → rawAdded env cfg s.cache (s.buffer ++ [c]) = true)
    (hsel : sel < s.suggestions.length) :
    C02.WF (s.buffer ++ [c]) (pKey env cfg s key sel).2 :=
  override_in_range_same_word_partial env cfg s key sel c hon hs hk
    ((override_word_same_iff s.buffer c ho).mpr hcolon) he1 he2 hraw hsel

/-! ## 4. non-vacuity and the witnesses -/

/-- a toy transliterator: seven letters and the full stop (→ danda); everything else — the comma, the colon — unchanged -/
def tr (c : Char) : Char :=
  if c == 'a' then 'আ' else if c == 'm' then 'ম' else if c == 'i' then 'ই' else if c == 'c' then 'ক'
  else if c == 'o' then 'ু' else if c == 'l' then 'ল' else if c == '.' then '।' else c

/-- a tiny world: two dictionary words for `ami`, three for `cool`, one emoticon -/
def tinyEnv : Env :=
  { convert := fun s => s.map tr
    dictPhonetic := fun w =>
      if w == ['a', 'm', 'i'] then some [['আ', 'ম', 'ি'], ['আ', 'ম', 'ী']]
      else if w == ['c', 'o', 'o', 'l'] then some [['ক', 'ু', 'ল'], ['ক', 'ূ', 'ল'], ['ক', 'ো', 'ল']]
      else some []
    suffix := fun _ => none, autocorrect := fun _ => none
    emoticon := fun s => if s == [':', ')'] then some ['😃'] else none
    emojiByName := fun _ => none, emojiBengali := fun _ => none, bijoy := fun s => .ok s, fixedTable := fun _ => [] }

/-- suggestions on, English option off -/
def cfgOn : Cfg := { phoneticSuggestion := true }
/-- suggestions on, English option on -/
def cfgEng : Cfg := { phoneticSuggestion := true, includeEnglish := true }

/-- the state after typing the keys one by one into a brand-new context -/
def typeKeys (env : Env) (cfg : Cfg) (ks : List Nat) : PState := ks.foldl (fun s k => (pKey env cfg s k 0).1) {}

/-- the keys `a m i` -/
def kAmi : List Nat := [41110, 41122, 41118]
/-- the keys `c o o l` -/
def kCool : List Nat := [41112, 41124, 41124, 41121]

/-- a state reached by keys (suggestions on, at least one character key) is a `Shown` state -/
theorem shown_typeKeys (env : Env) (cfg : Cfg) (hon : cfg.phoneticSuggestion = true) (ks : List Nat) (k : Nat) (c : Char)
    (hk : keycodeToChar k = some c) : Shown env cfg (typeKeys env cfg (ks ++ [k])) := by
  simp only [typeKeys, List.foldl_append, List.foldl_cons, List.foldl_nil]
  rw [pKey_of_char env cfg _ 0 hk]
  exact shown_create env cfg _ hon

/-- **`ami` + `.`** — every hypothesis of `override_in_range_same_word_partial` holds (three candidates shown, caller's
    byte 2, the full stop is an override key that leaves the word part `ami` alone, no emoticon, English off and on),
    and indeed the suggestion returned carries index 2 with three candidates -/
example :
    let s := typeKeys tinyEnv cfgOn kAmi
    Shown tinyEnv cfgOn s ∧ keycodeToChar 52 = some '.' ∧ isPunctOverride '.' = true ∧
    (split (s.buffer ++ ['.']) false).word = (split s.buffer false).word ∧ (split s.buffer false).word = ['a', 'm', 'i'] ∧
    tinyEnv.emoticon s.buffer = none ∧ tinyEnv.emoticon (s.buffer ++ ['.']) = none ∧
    (rawAdded tinyEnv cfgOn s.cache s.buffer = true → rawAdded tinyEnv cfgOn s.cache (s.buffer ++ ['.']) = true) ∧
    2 < s.suggestions.length ∧ s.suggestions.length = 3 ∧
    C02.shape (pKey tinyEnv cfgOn s 52 2).2 = some (2, 3) :=
  ⟨shown_typeKeys tinyEnv cfgOn rfl [41110, 41122] 41118 'i' (by decide +kernel), by decide +kernel⟩

/-- the same with the English option on: four candidates before and after (the raw text is appended both times) -/
example :
    let s := typeKeys tinyEnv cfgEng kAmi
    rawAdded tinyEnv cfgEng s.cache s.buffer = true ∧ rawAdded tinyEnv cfgEng s.cache (s.buffer ++ ['.']) = true ∧
    s.suggestions.length = 4 ∧ C02.shape (pKey tinyEnv cfgEng s 52 3).2 = some (3, 4) := by
  decide +kernel

/-- **`cool` + `:`** (the known finding F5 in the tiny world) — the colon joins the word part (`cool` ≠ `cool:`), so
    `hw` fails; the list shrinks from 4 to 1 and the caller's valid byte 3 is returned with a list of one -/
theorem cool_colon_out_of_range :
    let s := typeKeys tinyEnv cfgOn kCool
    keycodeToChar 99 = some ':' ∧ isPunctOverride ':' = true ∧
    (split (s.buffer ++ [':']) false).word ≠ (split s.buffer false).word ∧
    tinyEnv.emoticon s.buffer = none ∧ tinyEnv.emoticon (s.buffer ++ [':']) = none ∧
    3 < s.suggestions.length ∧ s.suggestions.length = 4 ∧
    C02.shape (pKey tinyEnv cfgOn s 99 3).2 = some (3, 1) := by
  decide +kernel

/-- **the length statement is false at full strength** (English option on): `,` is punctuation the transliterator
    leaves alone, so the raw text is not offered (1 candidate); after the full stop — word part still empty, no
    emoticon — the transliteration `,।` differs from the raw `,.`, which is now appended (2 candidates).  The real
    transliterator behaves like this toy one on these two characters.  The list GROWS here, harmless for the index. -/
theorem list_length_same_word_fails :
    (split ([','] ++ ['.']) false).word = (split [','] false).word ∧
    tinyEnv.emoticon [','] = none ∧ tinyEnv.emoticon ([','] ++ ['.']) = none ∧
    (suggestList tinyEnv cfgEng [] [',']).length = 1 ∧ (suggestList tinyEnv cfgEng [] ([','] ++ ['.'])).length = 2 ∧
    rawAdded tinyEnv cfgEng [] [','] = false ∧ rawAdded tinyEnv cfgEng [] ([','] ++ ['.']) = true := by
  decide +kernel

/-- a transliterator that is NOT compositional on punctuation: `.` ↦ `x`, everything else unchanged -/
def oddEnv : Env := { tinyEnv with convert := fun s => if s == ['.'] then ['x'] else s, dictPhonetic := fun _ => some [] }

/-- **the raw-text proviso of `override_in_range_same_word_partial` is needed for an abstract transliterator**:
    English on, `a.` shows `ax` and the raw `a.` (2 candidates); the second full stop leaves the word part `a` alone, no
    emoticon, but now the wrapped transliteration `a..` IS the raw text, which `push_checked` drops: 1 candidate, and
    the caller's valid byte 1 is out of range.  (Needs `convert ".." = ".."` and `convert "." ≠ "."`.) -/
theorem override_same_word_out_of_range :
    let s := typeKeys oddEnv cfgEng [41110, 52]
    keycodeToChar 52 = some '.' ∧ isPunctOverride '.' = true ∧
    (split (s.buffer ++ ['.']) false).word = (split s.buffer false).word ∧
    oddEnv.emoticon s.buffer = none ∧ oddEnv.emoticon (s.buffer ++ ['.']) = none ∧
    rawAdded oddEnv cfgEng s.cache s.buffer = true ∧ rawAdded oddEnv cfgEng s.cache (s.buffer ++ ['.']) = false ∧
    1 < s.suggestions.length ∧ C02.shape (pKey oddEnv cfgEng s 52 1).2 = some (1, 1) := by
  decide +kernel

/-- the escape character after `ami.` keeps the word part, after `ami` or `ami:` it does not (`word_same_iff`) -/
example :
    (split (['a', 'm', 'i', '.'] ++ ['`']) false).word = (split ['a', 'm', 'i', '.'] false).word ∧
    (split (['a', 'm', 'i'] ++ ['`']) false).word ≠ (split ['a', 'm', 'i'] false).word ∧
    (split (['a', 'm', 'i', ':'] ++ ['`']) false).word ≠ (split ['a', 'm', 'i', ':'] false).word := by
  decide +kernel

end Riti.C02Selection
