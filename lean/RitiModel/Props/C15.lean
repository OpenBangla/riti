/-
Props/C15 — fixed method, suggestions on: the first candidate is the composed text (quotes
curled), every other Bengali candidate is a dictionary completion of the typed word, Bengali
candidates come in non-decreasing (stored) distance, there are at most nine, and the raw keys
come last when the English option is on.

The real code orders with `sort_unstable` and truncates, so which of several equal-rank items
come first / survive is implementation-defined: every theorem quantifies over ALL orderings
`w.sorter` with `IsSortPerm` (a permutation of its input with no descent).  `keySort`
(Lemmas/FixedSuggest) is one such ordering, so the quantification is not vacuous.
-/
import RitiModel.Model.Context
import RitiModel.Lemmas.Split
import RitiModel.Lemmas.Rank
import RitiModel.Lemmas.Phonetic
import RitiModel.Lemmas.FixedSuggest
namespace Riti.C15
open Riti Riti.Gen

/-- the list `create_dictionary_suggestion` stores (and shows, see `shown_is_returned`) -/
abbrev shown (w : World) (cfg : Cfg) (s : FState) : List Rank := (fDictSuggestion w cfg s).1.suggestions

/-- the dictionary word as it is displayed: ZWNJ before `ু ূ ৃ` under traditional joining -/
def shownWord (cfg : Cfg) (d : Str) : Str := if cfg.fixedKar then tradKarWord d else d

/-- the suggestion handed to the caller lists exactly the texts of `shown`, in order, with the
    composed text as auxiliary text -/
theorem shown_is_returned (w : World) (cfg : Cfg) (s : FState) :
    (fDictSuggestion w cfg s).2 = .full s.buffer ((shown w cfg s).map Rank.text) 0 cfg.ansi := rfl

theorem other_from_hit (w : World) (hs : IsSortPerm w.sorter) (cfg : Cfg) (s : FState) :
    ∀ r ∈ shown w cfg s, r.variant = .other →
      ∃ r0 ∈ fixedHits w.env cfg (fixedParts cfg s.buffer).word,
        r = wrapR (fixedParts cfg s.buffer).pre (fixedParts cfg s.buffer).trail r0 :=
  forall_mem_fDict (fun l => (hs l).1) (fun h => by rw [wrapR_variant] at h; cases h) (fun r0 h0 _ => ⟨r0, h0, rfl⟩)
    (fun r hr h => by rw [fixedEmoji_variant hr] at h; cases h) (fun _ _ h => by cases h)

/-! ### the five clauses -/

/-- the first candidate is always the composed text itself: leading and trailing punctuation (with
    smart-quote curling when enabled) around the word part, for every admissible ordering -/
theorem c15_first_is_typed (w : World) (hs : IsSortPerm w.sorter) (cfg : Cfg) (s : FState) :
    (shown w cfg s).head?.map Rank.text =
      some (wrapText (fixedParts cfg s.buffer).pre (fixedParts cfg s.buffer).trail (fixedParts cfg s.buffer).word) := by
  obtain ⟨tl, htl⟩ := sorter_head hs cfg s
  rw [shown, fDictSuggestion_list, htl]
  rcases fixedCands_keep_english w.env cfg s with ⟨hk, _⟩ | ⟨hk, _⟩ <;> simp [hk, wrapText] <;> rfl

/-- that text spelled out: the composed text itself, except that with smart quotes on and a non-empty
    word part the straight quotes before the word are opened and those after it closed -/
theorem composed_text_curled (cfg : Cfg) (b : Str) :
    wrapText (fixedParts cfg b).pre (fixedParts cfg b).trail (fixedParts cfg b).word =
      if cfg.smartQuote && !(split b true).word.isEmpty
      then (split b true).pre.map openQuote ++ (split b true).word ++ (split b true).trail.map closeQuote
      else b := by
  have hb := split_append b true
  rw [List.append_assoc] at hb
  unfold fixedParts smartQuoter wrapText
  cases cfg.smartQuote <;> cases h : (split b true).word.isEmpty <;> simp [h, hb]

/-- in particular, with smart quotes off the first candidate is exactly the composed text -/
theorem c15_first_is_buffer (w : World) (hs : IsSortPerm w.sorter) (cfg : Cfg) (s : FState)
    (hq : cfg.smartQuote = false) : (shown w cfg s).head?.map Rank.text = some s.buffer := by
  rw [c15_first_is_typed w hs cfg s, composed_text_curled]; simp [hq]

/-- every other Bengali (`Other`) candidate is a dictionary completion: a word `d` of the table chosen
    by the first character of the word part, which begins with the cleaned word part (punctuation
    and ZWNJ removed), extends it by at most `needCharsUpto` characters, all of the regex class; it
    is displayed wrapped in the punctuation, with ZWNJs inserted under traditional joining, and its
    stored rank is ten times its edit distance to the word part, modulo 256 -/
theorem c15_completions (w : World) (hs : IsSortPerm w.sorter) (cfg : Cfg) (s : FState) :
    ∀ r ∈ shown w cfg s, r.variant = .other →
      ∃ tbl d, fixedTableName (fixedParts cfg s.buffer).word = some tbl ∧ d ∈ w.env.fixedTable tbl ∧
        cleanString (fixedParts cfg s.buffer).word <+: d ∧
        (d.drop (cleanString (fixedParts cfg s.buffer).word).length).length ≤
          needCharsUpto (cleanString (fixedParts cfg s.buffer).word).length ∧
        (∀ c ∈ d.drop (cleanString (fixedParts cfg s.buffer).word).length, inRegexClass c = true) ∧
        r.text = wrapText (fixedParts cfg s.buffer).pre (fixedParts cfg s.buffer).trail (shownWord cfg d) ∧
        r.num = (editDistance (fixedParts cfg s.buffer).word (shownWord cfg d) * 10) % 256 := by
  intro r hr hv
  obtain ⟨r0, hr0, rfl⟩ := other_from_hit w hs cfg s r hr hv
  obtain ⟨tbl, d, h1, h2, h3, h4, h5, rfl⟩ := mem_fixedHits hr0
  exact ⟨tbl, d, h1, h2, h3, h4, h5, by rw [wrapR_text]; rfl, by rw [wrapR_num]; rfl⟩

/-- the word inside a wrapped candidate -/
def unwrapText (parts : Parts) (x : Str) : Str :=
  (x.drop parts.pre.length).take (x.length - parts.pre.length - parts.trail.length)

theorem unwrapText_wrapText (parts : Parts) (t : Str) :
    unwrapText parts (wrapText parts.pre parts.trail t) = t := by
  simp [unwrapText, wrapText, List.append_assoc]

/-- when nothing wraps the word the candidate is the displayed dictionary word itself -/
theorem wrap_nothing (t : Str) : wrapText [] [] t = t := wrapText_nil t

/-- the ZWNJs added for traditional joining are the only difference between the displayed word
    and the dictionary word -/
theorem tradKar_strip (d : Str) :
    (tradKarWord d).filter (fun c => c != cZWNJ) = d.filter (fun c => c != cZWNJ) := Riti.tradKar_strip d

theorem filter_shownWord {p : Char → Bool} (hz : p cZWNJ = false) (cfg : Cfg) (d : Str) :
    (shownWord cfg d).filter p = d.filter p := by
  unfold shownWord
  split
  · exact filter_tradKarWord hz d
  · rfl

theorem completion_begins_with_typed (cfg : Cfg) (word d : Str) (h : cleanString word <+: d) :
    cleanString word <+: cleanString (shownWord cfg d) := by
  rw [← cleanString_idem word, show cleanString (shownWord cfg d) = cleanString d from filter_shownWord (by decide) cfg d]
  exact h.filter _

/-- the clause as the property words it: every `Other` candidate, with the wrapping punctuation taken
    off, is a word of the dictionary table up to the non-joiners added for traditional joining, and
    begins with the typed word once punctuation and non-joiners are ignored on both sides (`clean_string`
    removes both) -/
theorem c15_completions_worded (w : World) (hs : IsSortPerm w.sorter) (cfg : Cfg) (s : FState) :
    ∀ r ∈ shown w cfg s, r.variant = .other →
      ∃ tbl d, fixedTableName (fixedParts cfg s.buffer).word = some tbl ∧ d ∈ w.env.fixedTable tbl ∧
        (unwrapText (fixedParts cfg s.buffer) r.text).filter (fun c => c != cZWNJ) = d.filter (fun c => c != cZWNJ) ∧
        cleanString (fixedParts cfg s.buffer).word <+: cleanString (unwrapText (fixedParts cfg s.buffer) r.text) := by
  intro r hr hv
  obtain ⟨tbl, d, h1, h2, h3, _, _, h6, _⟩ := c15_completions w hs cfg s r hr hv
  refine ⟨tbl, d, h1, h2, ?_, ?_⟩
  · rw [h6, unwrapText_wrapText]
    exact filter_shownWord (by simp) cfg d
  · rw [h6, unwrapText_wrapText]
    exact completion_begins_with_typed cfg _ d h3

/-- the Bengali candidates (`First`, `Other`) occur in non-decreasing stored rank, wherever emoji
    items are interleaved and whatever the ordering does with equal ranks -/
theorem c15_monotone_bengali (w : World) (hs : IsSortPerm w.sorter) (cfg : Cfg) (s : FState) :
    ((shown w cfg s).filter (fun r => r.variant == .first || r.variant == .other)).Pairwise
      (fun a b => a.num ≤ b.num) := by
  rw [shown, fDictSuggestion_list, List.filter_append]
  have hE : (fixedCands w.env cfg s).english.toList.filter
      (fun r => r.variant == .first || r.variant == .other) = [] := by
    rcases fixedCands_keep_english w.env cfg s with ⟨_, he, _⟩ | ⟨_, he, _⟩ <;> rw [he] <;> simp [Rank.variant]
  rw [hE, List.append_nil, List.pairwise_filter]
  exact (sorter_take_num_le hs cfg s).imp fun h ha hb =>
    h (fun he => by simp [he] at ha) (fun he => by simp [he] at hb)

/-- the `Other` candidates occur in non-decreasing stored rank -/
theorem c15_monotone (w : World) (hs : IsSortPerm w.sorter) (cfg : Cfg) (s : FState) :
    ((shown w cfg s).filter (fun r => r.variant == .other)).Pairwise (fun a b => a.num ≤ b.num) := by
  have h := (c15_monotone_bengali w hs cfg s).filter (fun r => r.variant == .other)
  rwa [List.filter_filter, show (fun r : Rank => r.variant == .other && (r.variant == .first || r.variant == .other)) =
    (fun r => r.variant == .other) from funext fun r => by cases r <;> rfl] at h

/-- PARTIAL (distance form of `c15_monotone`): if no hit is 26 or more edits away from the word part
    (`10·d < 256`, the rank is a `u8`), the `Other` candidates occur in non-decreasing edit
    distance to the word part.  Excluded: words padded with ≥ 25 cleaned characters — see
    `c15_distance_order_fails`, where the order really is wrong. -/
theorem c15_monotone_distance_partial (w : World) (hs : IsSortPerm w.sorter) (cfg : Cfg) (s : FState)
    (hnowrap : ∀ r ∈ fixedHits w.env cfg (fixedParts cfg s.buffer).word,
      editDistance (fixedParts cfg s.buffer).word r.text * 10 < 256) :
    (((shown w cfg s).filter (fun r => r.variant == .other)).map
      (fun r => editDistance (fixedParts cfg s.buffer).word (unwrapText (fixedParts cfg s.buffer) r.text))).Pairwise
      (fun a b => a ≤ b) := by
  rw [List.pairwise_map]
  refine (c15_monotone w hs cfg s).imp_of_mem ?_
  intro a b ha hb hab
  have key : ∀ r ∈ (shown w cfg s).filter (fun r => r.variant == .other),
      r.num = 10 * editDistance (fixedParts cfg s.buffer).word (unwrapText (fixedParts cfg s.buffer) r.text) := by
    intro r hr
    obtain ⟨hr1, hr2⟩ := List.mem_filter.mp hr
    obtain ⟨r0, hr0, rfl⟩ := other_from_hit w hs cfg s r hr1 (by simpa using hr2)
    have hnw := hnowrap r0 hr0
    obtain ⟨tbl, d, _, _, _, _, _, rfl⟩ := mem_fixedHits hr0
    rw [wrapR_num, wrapR_text, ← wrapText, unwrapText_wrapText]
    exact num_newSuggestion _ _ hnw
  rw [key a ha, key b hb] at hab
  omega

/-- at most nine candidates are shown -/
theorem c15_at_most_nine (w : World) (cfg : Cfg) (s : FState) : (shown w cfg s).length ≤ 9 := by
  rw [shown, fDictSuggestion_list, List.length_append, List.length_take]
  rcases fixedCands_keep_english w.env cfg s with ⟨hk, he, _⟩ | ⟨hk, he, _⟩ <;> rw [hk, he] <;> simp <;> omega

/-- English option on (and not masked by ANSI) and the raw keys differ from the composed text: the
    last candidate is the raw key text -/
theorem c15_english_last (w : World) (cfg : Cfg) (s : FState) (he : cfg.english = true) (hne : s.buffer ≠ s.typed) :
    (shown w cfg s).getLast? = some (Rank.last s.typed 1) := by
  rw [shown, fDictSuggestion_list]
  rcases fixedCands_keep_english w.env cfg s with ⟨_, h, _⟩ | ⟨_, _, h⟩
  · rw [h]; simp
  · rcases h with h | h
    · rw [he] at h; cases h
    · exact absurd h hne

/-- English option off (or masked), or the raw keys equal the composed text: no raw-keys item at all -/
theorem c15_no_english (w : World) (hs : IsSortPerm w.sorter) (cfg : Cfg) (s : FState)
    (h : cfg.english = false ∨ s.buffer = s.typed) : ∀ r ∈ shown w cfg s, r.variant ≠ .last := by
  refine forall_mem_fDict (fun l => (hs l).1) (by rw [wrapR_variant]; simp [Rank.variant]) (fun r0 h0 => by simp [fixedHits_variant h0])
    (fun r hr => by simp [fixedEmoji_variant hr]) (fun h1 h2 => ?_)
  rcases h with h | h
  · rw [h1] at h; cases h
  · exact absurd h h2

/-- the raw-keys item never occurs anywhere but last -/
theorem c15_english_only_last (w : World) (hs : IsSortPerm w.sorter) (cfg : Cfg) (s : FState) :
    ∀ r ∈ (shown w cfg s).dropLast, r.variant ≠ .last := by
  rw [shown, fDictSuggestion_list]
  intro r hr
  -- whether or not a raw-keys item was appended, what stands before the last item was handed to the sort
  have hmem : r ∈ (w.sorter (fixedCands w.env cfg s).cands).take (fixedCands w.env cfg s).keep := by
    cases he : (fixedCands w.env cfg s).english with
    | some x => simpa [he] using hr
    | none => exact (List.dropLast_sublist _).subset (by simpa [he] using hr)
  rcases fixedCands_variant (((hs _).1.mem_iff).mp (List.mem_of_mem_take hmem)) with hv | hv | hv <;> rw [hv] <;> simp

/-- PARTIAL (no repeats): if the candidates handed to the sort have pairwise different texts — i.e.
    the hit list has no NON-adjacent repeat (`dedup()` only removes adjacent ones) and the emoji
    texts are fresh — and the raw key text differs from all of them, then no text is shown twice:
    sorting, truncating and appending the English item never create a repeat.  Both exclusions are
    real, see `c15_nodup_fails_nonadjacent` and `c15_nodup_fails_typed`. -/
theorem c15_nodup_partial (w : World) (hs : IsSortPerm w.sorter) (cfg : Cfg) (s : FState)
    (hc : ((fixedCands w.env cfg s).cands.map Rank.text).Nodup)
    (ht : s.typed ∉ (fixedCands w.env cfg s).cands.map Rank.text) :
    ((shown w cfg s).map Rank.text).Nodup := by
  rw [shown, fDictSuggestion_list, List.map_append]
  have hperm : ((w.sorter (fixedCands w.env cfg s).cands).map Rank.text).Perm
      ((fixedCands w.env cfg s).cands.map Rank.text) := (hs _).1.map _
  have htake : (((w.sorter (fixedCands w.env cfg s).cands).take (fixedCands w.env cfg s).keep).map Rank.text).Sublist
      ((w.sorter (fixedCands w.env cfg s).cands).map Rank.text) := (List.take_sublist _ _).map _
  have hnd := (hperm.nodup_iff.mpr hc).sublist htake
  rcases fixedCands_keep_english w.env cfg s with ⟨_, he, _⟩ | ⟨_, he, _⟩
  · rw [he]
    refine List.nodup_append.mpr ⟨hnd, by simp, ?_⟩
    intro a ha b hb
    simp only [Option.toList_some, List.map_cons, List.map_nil, List.mem_singleton, Rank.text] at hb
    subst hb
    intro hab; subst hab
    exact ht (hperm.mem_iff.mp (htake.subset ha))
  · rw [he]; simpa using hnd

/-! ### witnesses: the unrestricted statements fail -/

def chK : Char := Char.ofNat 2453   -- ক
def chKh : Char := Char.ofNat 2454  -- খ
def chG : Char := Char.ofNat 2455   -- গ

def envOf (table : List Str) : Env :=
  { convert := id, dictPhonetic := fun _ => some [], suffix := fun _ => none, autocorrect := fun _ => none
    emoticon := fun _ => none, emojiByName := fun _ => none, emojiBengali := fun _ => none
    bijoy := fun s => .ok s, fixedTable := fun _ => table }

/-- a world whose every dictionary table is `table`, ordered by `keySort` -/
def worldOf (table : List Str) : World := { env := envOf table, layouts := fun _ => none, sorter := keySort }

/-- the witness worlds use an admissible ordering -/
theorem worldOf_sorter (table : List Str) : IsSortPerm (worldOf table).sorter := isSortPerm_keySort

/-- "none repeats" FAILS when the table lists a word twice with another match in between: `dedup()`
    removes only adjacent repeats.  Table `কখ, কখগ, কখ`, composed `কখ`: the list shows `কখ` twice.
    (The bundled table `r` does contain a word twice, non-adjacently.) -/
theorem c15_nodup_fails_nonadjacent :
    let w := worldOf [[chK, chKh], [chK, chKh, chG], [chK, chKh]]
    let s : FState := { rbuf := [chKh, chK], rtyped := ['k', 'j'] }
    IsSortPerm w.sorter ∧
      (shown w { fixedSuggestion := true } s).map Rank.text = [[chK, chKh], [chK, chKh], [chK, chKh, chG]] ∧
      ¬ ((shown w { fixedSuggestion := true } s).map Rank.text).Nodup := by
  refine ⟨isSortPerm_keySort, ?_⟩
  -- `dedupAdjacent` is compiled by well-founded recursion, which the kernel does not evaluate: go to the structural copy
  simp only [shown, fDict_list_eq_R]; decide +kernel

/-- "none repeats" also FAILS in the model when the raw key text equals a candidate text while
    differing from the composed text: with smart quotes `'ক` is shown as `‘ক`, and a state whose
    raw keys are `‘ক` gets that text twice.  (Not reachable through the key API, where raw keys are
    ASCII; it shows that the second hypothesis of `c15_nodup_partial` cannot simply be dropped.) -/
theorem c15_nodup_fails_typed :
    let w := worldOf []
    let s : FState := { rbuf := [chK, '\''], rtyped := [chK, '‘'] }
    (shown w { fixedSuggestion := true, includeEnglish := true } s).map Rank.text = [['‘', chK], ['‘', chK]] := by
  simp only [shown, fDict_list_eq_R]; decide +kernel

/-- "non-decreasing edit distance" FAILS at full strength (known finding, shared with C07): the rank
    is stored in a `u8`.  Composed `ক-------------------------খ` (25 hyphens, which `clean_string`
    drops): the hit `কখগ` is 26 edits away and gets rank `260 mod 256 = 4`, so it is shown BEFORE
    `কখ`, which is 25 edits away (rank 250). -/
theorem c15_distance_order_fails :
    let w := worldOf [[chK, chKh], [chK, chKh, chG]]
    let word : Str := chK :: (List.replicate 25 '-' ++ [chKh])
    let s : FState := { rbuf := word.reverse, rtyped := [] }
    shown w { fixedSuggestion := true } s = [.first word, .other [chK, chKh, chG] 4, .other [chK, chKh] 250] ∧
      editDistance word [chK, chKh, chG] = 26 ∧ editDistance word [chK, chKh] = 25 := by
  simp only [shown, fDict_list_eq_R]; decide +kernel

/-! ### non-vacuity -/

/-- a dictionary with the word `কখ` itself, two completions, a word that is too long, one that does not
    begin with it, and an emoji name -/
def demoWorld : World :=
  { env := { envOf [[chK, chKh], [chK, chKh, chG], [chK, chKh, chG, chG, chG, chG, chG, chG], [chK, chG], [chK, chKh, chK]] with
              emojiBengali := fun w => if w == [chK, chKh] then some [['E']] else none }
    layouts := fun _ => none, sorter := keySort }

/-- all hypotheses hold of a concrete, non-trivial case and every clause can be seen at work:
    composed `"কখ"`, raw keys `"jk"`, smart quotes and English on.  First the curled composed text (the
    dictionary's own `কখ` is removed by `dedup()`), the emoji (rank 1) before the two completions at
    distance 1 (rank 10), the too-long and the non-matching word absent, the raw keys last. -/
example :
    let cfg : Cfg := { fixedSuggestion := true, includeEnglish := true }
    let s : FState := { rbuf := ['"', chKh, chK, '"'], rtyped := ['"', 'k', 'j', '"'] }
    IsSortPerm demoWorld.sorter ∧ cfg.english = true ∧ s.buffer ≠ s.typed ∧
    shown demoWorld cfg s =
      [.first ['“', chK, chKh, '”'], .emoji ['“', 'E', '”'] 1,
       .other ['“', chK, chKh, chG, '”'] 10, .other ['“', chK, chKh, chK, '”'] 10, .last ['"', 'j', 'k', '"'] 1] := by
  refine ⟨isSortPerm_keySort, ?_⟩
  simp only [shown, fDict_list_eq_R]; decide +kernel

/-- the Rust stable sort happens to be an admissible ordering on these candidates as well (same list) -/
example :
    let cfg : Cfg := { fixedSuggestion := true, includeEnglish := true }
    let s : FState := { rbuf := ['"', chKh, chK, '"'], rtyped := ['"', 'k', 'j', '"'] }
    shown { demoWorld with sorter := sortStable } cfg s = shown demoWorld cfg s := by
  simp only [shown, fDict_list_eq_R]; decide +kernel

/-- the hypotheses of `c15_nodup_partial` and `c15_monotone_distance_partial` are satisfiable: a table
    without repeats, composed `কখ`, raw keys `jk` -/
example :
    let w := worldOf [[chK, chKh], [chK, chKh, chG]]
    let cfg : Cfg := { fixedSuggestion := true, includeEnglish := true }
    let s : FState := { rbuf := [chKh, chK], rtyped := ['k', 'j'] }
    ((fixedCands w.env cfg s).cands.map Rank.text).Nodup ∧
      s.typed ∉ (fixedCands w.env cfg s).cands.map Rank.text ∧
      (∀ r ∈ fixedHits w.env cfg (fixedParts cfg s.buffer).word,
        editDistance (fixedParts cfg s.buffer).word r.text * 10 < 256) ∧
      shown w cfg s = [.first [chK, chKh], .other [chK, chKh, chG] 10, .last ['j', 'k'] 1] := by
  simp only [shown, fDict_list_eq_R, fixedCands_eq_R]; decide +kernel

end Riti.C15
