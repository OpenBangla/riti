/-
Props/BijoySamplesDict — GENERATED by tools/bijoy_samples.py: the Lean model `Riti.bijoy` reproduces the REAL crate's
`poriborton::bijoy2000::unicode_to_bijoy` on every 500th word of data/dictionary.json (BijoySamplesDict) and on
hand-picked hard cases (BijoySamples: the crate's own tests, reph, ra-fola, ya-fola, conjunct + front kar, two-part kars, chandrabindu, hasanta + ZWNJ/ZWJ, digits,
punctuation, curly quotes, ASCII pass-through, unmapped code points, the five panicking code points).
The expected values were printed by the crate itself (tools/bijoy_pairs_src).  Each line is checked by the kernel.
-/
import RitiModel.Lemmas.BijoyFast
namespace Riti.BijoySamplesDict
open Riti Riti.Bijoy

example : bijoy "দ".toList = .ok "`".toList := by apply bijoy_fast; decide +kernel
example : bijoy "দগ্ধিতেন".toList = .ok "`w»‡Zb".toList := by apply bijoy_fast; decide +kernel
example : bijoy "দাবাইবেন".toList = .ok "`vevB‡eb".toList := by apply bijoy_fast; decide +kernel
example : bijoy "দায়িত্বমুক্ত".toList = .ok "`vwqZ¡gy³".toList := by apply bijoy_fast; decide +kernel
example : bijoy "দীপ্তিমিতি".toList = .ok "`xwßwgwZ".toList := by apply bijoy_fast; decide +kernel
example : bijoy "দেবকাষ্ঠ".toList = .ok "†`eKvô".toList := by apply bijoy_fast; decide +kernel
example : bijoy "দোপট্টি".toList = .ok "†`vcwÆ".toList := by apply bijoy_fast; decide +kernel
example : bijoy "দৌড়ধাপ".toList = .ok "†`Šoavc".toList := by apply bijoy_fast; decide +kernel
example : bijoy "দ্বিপক্ষীয়".toList = .ok "wØc¶xq".toList := by apply bijoy_fast; decide +kernel
example : bijoy "দুমড়ত".toList = .ok "`ygoZ".toList := by apply bijoy_fast; decide +kernel
example : bijoy "দুর্ভক্ষ্য".toList = .ok "`yf©¶¨".toList := by apply bijoy_fast; decide +kernel
example : bijoy "দলিয়েছিলি".toList = .ok "`wj‡qwQwj".toList := by apply bijoy_fast; decide +kernel
example : bijoy "দুষ্প্রসহ".toList = .ok "`y®cÖmn".toList := by apply bijoy_fast; decide +kernel
example : bijoy "ঝাঁকাচ্ছ".toList = .ok "SvuKv”Q".toList := by apply bijoy_fast; decide +kernel
example : bijoy "ঝামরাচ্ছিল".toList = .ok "Svgivw”Qj".toList := by apply bijoy_fast; decide +kernel
example : bijoy "ঝিমিক".toList = .ok "wSwgK".toList := by apply bijoy_fast; decide +kernel
example : bijoy "ঝরনাধারা".toList = .ok "Sibvaviv".toList := by apply bijoy_fast; decide +kernel
example : bijoy "টুকছিলেন".toList = .ok "UzKwQ‡jb".toList := by apply bijoy_fast; decide +kernel
example : bijoy "টান".toList = .ok "Uvb".toList := by apply bijoy_fast; decide +kernel
example : bijoy "টিপিয়েছিলুম".toList = .ok "wUwc‡qwQjyg".toList := by apply bijoy_fast; decide +kernel
example : bijoy "ট্যাঁটা".toList = .ok "U¨vuUv".toList := by apply bijoy_fast; decide +kernel
example : bijoy "টুলো".toList = .ok "Uz‡jv".toList := by apply bijoy_fast; decide +kernel
example : bijoy "হাকিক".toList = .ok "nvwKK".toList := by apply bijoy_fast; decide +kernel
example : bijoy "হাঁটলেন".toList = .ok "nvuU‡jb".toList := by apply bijoy_fast; decide +kernel
example : bijoy "হাঁপাইত".toList = .ok "nvucvBZ".toList := by apply bijoy_fast; decide +kernel
example : bijoy "হার্ডড্রাইভ".toList = .ok "nvW©WªvBf".toList := by apply bijoy_fast; decide +kernel
example : bijoy "হিংসাদ্বেষ".toList = .ok "wnsmv‡Øl".toList := by apply bijoy_fast; decide +kernel
example : bijoy "হেঙ্গল".toList = .ok "†n½j".toList := by apply bijoy_fast; decide +kernel
example : bijoy "হোলি".toList = .ok "†nvwj".toList := by apply bijoy_fast; decide +kernel
example : bijoy "হনন".toList = .ok "nbb".toList := by apply bijoy_fast; decide +kernel
example : bijoy "হড়কাইয়াছিল".toList = .ok "noKvBqvwQj".toList := by apply bijoy_fast; decide +kernel
example : bijoy "যাচ্ঞা".toList = .ok "hv”Tv".toList := by apply bijoy_fast; decide +kernel
example : bijoy "যোজ্যতা".toList = .ok "†hvR¨Zv".toList := by apply bijoy_fast; decide +kernel
example : bijoy "যবনিকা".toList = .ok "hewbKv".toList := by apply bijoy_fast; decide +kernel
example : bijoy "তাতাইলে".toList = .ok "ZvZvB‡j".toList := by apply bijoy_fast; decide +kernel
example : bijoy "তারস্বর".toList = .ok "Zvi¯^i".toList := by apply bijoy_fast; decide +kernel
example : bijoy "তিলিসমাত".toList = .ok "wZwjmgvZ".toList := by apply bijoy_fast; decide +kernel
example : bijoy "তৈক্ষ্ণ্য".toList = .ok "ˆZ¶è¨".toList := by apply bijoy_fast; decide +kernel
example : bijoy "ততো".toList = .ok "Z‡Zv".toList := by apply bijoy_fast; decide +kernel
example : bijoy "তুবড়াইয়াছিলাম".toList = .ok "ZzeovBqvwQjvg".toList := by apply bijoy_fast; decide +kernel
example : bijoy "ত্রৈবর্ষিক".toList = .ok "ˆÎewl©K".toList := by apply bijoy_fast; decide +kernel
example : bijoy "তলোয়ার".toList = .ok "Z‡jvqvi".toList := by apply bijoy_fast; decide +kernel
example : bijoy "জগদ্বন্ধু".toList = .ok "RMØÜy".toList := by apply bijoy_fast; decide +kernel
example : bijoy "জাতপুত্র".toList = .ok "RvZcyÎ".toList := by apply bijoy_fast; decide +kernel
example : bijoy "জারাইয়া".toList = .ok "RvivBqv".toList := by apply bijoy_fast; decide +kernel
example : bijoy "জিতছিস".toList = .ok "wRZwQm".toList := by apply bijoy_fast; decide +kernel
example : bijoy "জেঠাই".toList = .ok "†RVvB".toList := by apply bijoy_fast; decide +kernel
example : bijoy "জ্ঞাতকারী".toList = .ok "ÁvZKvix".toList := by apply bijoy_fast; decide +kernel
example : bijoy "জুতিতেছেন".toList = .ok "RzwZ‡Z‡Qb".toList := by apply bijoy_fast; decide +kernel
example : bijoy "জনস্বার্থ".toList = .ok "Rb¯^v_©".toList := by apply bijoy_fast; decide +kernel
example : bijoy "জ্বলাইতেছে".toList = .ok "R¡jvB‡Z‡Q".toList := by apply bijoy_fast; decide +kernel
example : bijoy "জরাচ্ছেন".toList = .ok "Riv‡”Qb".toList := by apply bijoy_fast; decide +kernel
example : bijoy "জড়াইয়াছিলি".toList = .ok "RovBqvwQwj".toList := by apply bijoy_fast; decide +kernel
example : bijoy "ফাউন্টেনপেন".toList = .ok "dvD‡›Ub‡cb".toList := by apply bijoy_fast; decide +kernel
example : bijoy "ফারাক".toList = .ok "dvivK".toList := by apply bijoy_fast; decide +kernel
example : bijoy "ফিল".toList = .ok "wdj".toList := by apply bijoy_fast; decide +kernel
example : bijoy "ফোকলোর".toList = .ok "†dvK‡jvi".toList := by apply bijoy_fast; decide +kernel
example : bijoy "ফুটেছি".toList = .ok "dz‡UwQ".toList := by apply bijoy_fast; decide +kernel
example : bijoy "ফুলাইয়াছি".toList = .ok "dzjvBqvwQ".toList := by apply bijoy_fast; decide +kernel
example : bijoy "ফসকাও".toList = .ok "dmKvI".toList := by apply bijoy_fast; decide +kernel
example : bijoy "কওন".toList = .ok "KIb".toList := by apply bijoy_fast; decide +kernel
example : bijoy "কাচাচ্ছিলেম".toList = .ok "KvPvw”Q‡jg".toList := by apply bijoy_fast; decide +kernel
example : bijoy "কাটুনি".toList = .ok "KvUzwb".toList := by apply bijoy_fast; decide +kernel
example : bijoy "কাঁদুনি".toList = .ok "Kvu`ywb".toList := by apply bijoy_fast; decide +kernel
example : bijoy "কামাইতেছিলেন".toList = .ok "KvgvB‡ZwQ‡jb".toList := by apply bijoy_fast; decide +kernel
example : bijoy "কার্ত্তিক".toList = .ok "KvwË©K".toList := by apply bijoy_fast; decide +kernel
example : bijoy "কাসন".toList = .ok "Kvmb".toList := by apply bijoy_fast; decide +kernel
example : bijoy "কিরীটিনী".toList = .ok "wKixwUbx".toList := by apply bijoy_fast; decide +kernel
example : bijoy "কুচন্দন".toList = .ok "KzP›`b".toList := by apply bijoy_fast; decide +kernel
example : bijoy "কেলেন্ডার".toList = .ok "†K‡jÛvi".toList := by apply bijoy_fast; decide +kernel
example : bijoy "কোটীশ্বর".toList = .ok "†KvUxk¦i".toList := by apply bijoy_fast; decide +kernel
example : bijoy "কোল্ট".toList = .ok "†Kvë".toList := by apply bijoy_fast; decide +kernel
example : bijoy "ক্যারেল".toList = .ok "K¨v‡ij".toList := by apply bijoy_fast; decide +kernel
example : bijoy "কৃতজ্ঞতা".toList = .ok "K…ZÁZv".toList := by apply bijoy_fast; decide +kernel
example : bijoy "কনসোনেন্ট".toList = .ok "Kb‡mv‡b›U".toList := by apply bijoy_fast; decide +kernel
example : bijoy "কবলিয়েছিলে".toList = .ok "Kewj‡qwQ‡j".toList := by apply bijoy_fast; decide +kernel
example : bijoy "করকাপাত".toList = .ok "KiKvcvZ".toList := by apply bijoy_fast; decide +kernel
example : bijoy "ক্রেসপো".toList = .ok "†µm‡cv".toList := by apply bijoy_fast; decide +kernel
example : bijoy "কর্মযজ্ঞ".toList = .ok "Kg©hÁ".toList := by apply bijoy_fast; decide +kernel
example : bijoy "ক্লিশিত".toList = .ok "wK¬wkZ".toList := by apply bijoy_fast; decide +kernel
example : bijoy "কশিয়েছে".toList = .ok "Kwk‡q‡Q".toList := by apply bijoy_fast; decide +kernel
example : bijoy "কৃষ্ণাজিন".toList = .ok "K…òvwRb".toList := by apply bijoy_fast; decide +kernel
example : bijoy "কহিঁ".toList = .ok "Kwnu".toList := by apply bijoy_fast; decide +kernel
example : bijoy "ঢুকিবেন".toList = .ok "XzwK‡eb".toList := by apply bijoy_fast; decide +kernel
example : bijoy "ঢেকেছিলি".toList = .ok "†X‡KwQwj".toList := by apply bijoy_fast; decide +kernel
example : bijoy "ঢুঁড়িত".toList = .ok "XzuwoZ".toList := by apply bijoy_fast; decide +kernel
example : bijoy "সংপুট".toList = .ok "mscyU".toList := by apply bijoy_fast; decide +kernel
example : bijoy "সূক্তি".toList = .ok "m~w³".toList := by apply bijoy_fast; decide +kernel
example : bijoy "সাকসেস".toList = .ok "mvK‡mm".toList := by apply bijoy_fast; decide +kernel
example : bijoy "সাঁতরাচ্ছিলে".toList = .ok "mvuZivw”Q‡j".toList := by apply bijoy_fast; decide +kernel
example : bijoy "সান্ত্বন".toList = .ok "mvš—¡b".toList := by apply bijoy_fast; decide +kernel
example : bijoy "সারাচ্ছিলেন".toList = .ok "mvivw”Q‡jb".toList := by apply bijoy_fast; decide +kernel
example : bijoy "সিঙ্গেল".toList = .ok "wm‡½j".toList := by apply bijoy_fast; decide +kernel
example : bijoy "সূচনামাত্র".toList = .ok "m~PbvgvÎ".toList := by apply bijoy_fast; decide +kernel
example : bijoy "সেতুবন্ধন".toList = .ok "†mZzeÜb".toList := by apply bijoy_fast; decide +kernel
example : bijoy "সৌপর্ণ".toList = .ok "†mŠcY©".toList := by apply bijoy_fast; decide +kernel
example : bijoy "সতীলক্ষ্মী".toList = .ok "mZxj²x".toList := by apply bijoy_fast; decide +kernel
example : bijoy "সুদক্ষ".toList = .ok "my`¶".toList := by apply bijoy_fast; decide +kernel
example : bijoy "সন্দীপিত".toList = .ok "m›`xwcZ".toList := by apply bijoy_fast; decide +kernel
example : bijoy "সুপ্রজননবিদ".toList = .ok "mycÖRbbwe`".toList := by apply bijoy_fast; decide +kernel
example : bijoy "স্বেচ্ছানুবর্তী".toList = .ok "†¯^”QvbyeZ©x".toList := by apply bijoy_fast; decide +kernel
example : bijoy "স্বহস্ত".toList = .ok "¯^n¯—".toList := by apply bijoy_fast; decide +kernel
example : bijoy "সমঝিয়েছি".toList = .ok "mgwS‡qwQ".toList := by apply bijoy_fast; decide +kernel
example : bijoy "সম্মানবোধ".toList = .ok "m¤§vb‡eva".toList := by apply bijoy_fast; decide +kernel
example : bijoy "সরছিলে".toList = .ok "miwQ‡j".toList := by apply bijoy_fast; decide +kernel
example : bijoy "সরূয়া".toList = .ok "miƒqv".toList := by apply bijoy_fast; decide +kernel
example : bijoy "সহর".toList = .ok "mni".toList := by apply bijoy_fast; decide +kernel
example : bijoy "গাছালি".toList = .ok "MvQvwj".toList := by apply bijoy_fast; decide +kernel
example : bijoy "গার্ডার".toList = .ok "MvW©vi".toList := by apply bijoy_fast; decide +kernel
example : bijoy "গিলাইবার".toList = .ok "wMjvBevi".toList := by apply bijoy_fast; decide +kernel
example : bijoy "গোকুলেরষাঁড়".toList = .ok "†MvKz‡jilvuo".toList := by apply bijoy_fast; decide +kernel
example : bijoy "গোরারূপ".toList = .ok "†Mviviƒc".toList := by apply bijoy_fast; decide +kernel
example : bijoy "গুছব".toList = .ok "¸Qe".toList := by apply bijoy_fast; decide +kernel
example : bijoy "গুটা".toList = .ok "¸Uv".toList := by apply bijoy_fast; decide +kernel
example : bijoy "গুঁতাইতাম".toList = .ok "¸uZvBZvg".toList := by apply bijoy_fast; decide +kernel
example : bijoy "গবেষণাপত্র".toList = .ok "M‡elYvcÎ".toList := by apply bijoy_fast; decide +kernel
example : bijoy "গর্জাইবি".toList = .ok "MR©vBwe".toList := by apply bijoy_fast; decide +kernel
example : bijoy "গরহাজিরা".toList = .ok "MinvwRiv".toList := by apply bijoy_fast; decide +kernel
example : bijoy "গুলতরাস".toList = .ok "¸jZivm".toList := by apply bijoy_fast; decide +kernel
example : bijoy "গড়েন".toList = .ok "M†ob".toList := by apply bijoy_fast; decide +kernel
example : bijoy "ছাঁটবি".toList = .ok "QvuUwe".toList := by apply bijoy_fast; decide +kernel
example : bijoy "ছাড়িয়েছিলাম".toList = .ok "Qvwo‡qwQjvg".toList := by apply bijoy_fast; decide +kernel
example : bijoy "ছিঁড়িতে".toList = .ok "wQuwo‡Z".toList := by apply bijoy_fast; decide +kernel
example : bijoy "ছেয়াল".toList = .ok "†Qqvj".toList := by apply bijoy_fast; decide +kernel
example : bijoy "ছটকাইয়াছিলি".toList = .ok "QUKvBqvwQwj".toList := by apply bijoy_fast; decide +kernel
example : bijoy "ছুবললাম".toList = .ok "Qzejjvg".toList := by apply bijoy_fast; decide +kernel
example : bijoy "ছুঁড়েছিলুম".toList = .ok "Qzu‡owQjyg".toList := by apply bijoy_fast; decide +kernel
example : bijoy "বকিস".toList = .ok "ewKm".toList := by apply bijoy_fast; decide +kernel
example : bijoy "বাংলাতালিকা".toList = .ok "evsjvZvwjKv".toList := by apply bijoy_fast; decide +kernel
example : bijoy "বাগাবো".toList = .ok "evMv‡ev".toList := by apply bijoy_fast; decide +kernel
example : bijoy "বাজারকৃত".toList = .ok "evRviK…Z".toList := by apply bijoy_fast; decide +kernel
example : bijoy "বাতলাব".toList = .ok "evZjve".toList := by apply bijoy_fast; decide +kernel
example : bijoy "বাধবে".toList = .ok "eva‡e".toList := by apply bijoy_fast; decide +kernel
example : bijoy "বাল্য".toList = .ok "evj¨".toList := by apply bijoy_fast; decide +kernel
example : bijoy "বাড়িছাড়া".toList = .ok "evwoQvov".toList := by apply bijoy_fast; decide +kernel
example : bijoy "বিগলিত".toList = .ok "weMwjZ".toList := by apply bijoy_fast; decide +kernel
example : bijoy "বিটলা".toList = .ok "weUjv".toList := by apply bijoy_fast; decide +kernel
example : bijoy "বিধুরা".toList = .ok "weayiv".toList := by apply bijoy_fast; decide +kernel
example : bijoy "বিভীতকী".toList = .ok "wefxZKx".toList := by apply bijoy_fast; decide +kernel
example : bijoy "বিশেষক্ষেত্রে".toList = .ok "we‡kl‡¶‡Î".toList := by apply bijoy_fast; decide +kernel
example : bijoy "বিস্ফোরিত".toList = .ok "we‡ùvwiZ".toList := by apply bijoy_fast; decide +kernel
example : bijoy "বেচিয়া".toList = .ok "†ewPqv".toList := by apply bijoy_fast; decide +kernel
example : bijoy "বেরচ্ছিলাম".toList = .ok "†eiw”Qjvg".toList := by apply bijoy_fast; decide +kernel
example : bijoy "বেয়ধি".toList = .ok "†eqwa".toList := by apply bijoy_fast; decide +kernel
example : bijoy "বোলযুক্ত".toList = .ok "†evjhy³".toList := by apply bijoy_fast; decide +kernel
example : bijoy "ব্যক্তিগত".toList = .ok "e¨w³MZ".toList := by apply bijoy_fast; decide +kernel
example : bijoy "ব্যয়ভার".toList = .ok "e¨qfvi".toList := by apply bijoy_fast; decide +kernel
example : bijoy "বনাইয়ো".toList = .ok "ebvB‡qv".toList := by apply bijoy_fast; decide +kernel
example : bijoy "বভ্রু".toList = .ok "eå“".toList := by apply bijoy_fast; decide +kernel
example : bijoy "বর্তামান".toList = .ok "eZ©vgvb".toList := by apply bijoy_fast; decide +kernel
example : bijoy "বলিহারি".toList = .ok "ewjnvwi".toList := by apply bijoy_fast; decide +kernel
example : bijoy "বস্তান".toList = .ok "e¯—vb".toList := by apply bijoy_fast; decide +kernel
example : bijoy "বহুশিখ".toList = .ok "eûwkL".toList := by apply bijoy_fast; decide +kernel
example : bijoy "নকশালপন্থী".toList = .ok "bKkvjcš’x".toList := by apply bijoy_fast; decide +kernel
example : bijoy "নাচিত".toList = .ok "bvwPZ".toList := by apply bijoy_fast; decide +kernel
example : bijoy "নামাইয়াছিলে".toList = .ok "bvgvBqvwQ‡j".toList := by apply bijoy_fast; decide +kernel
example : bijoy "নাড়াইতেছিস".toList = .ok "bvovB‡ZwQm".toList := by apply bijoy_fast; decide +kernel
example : bijoy "নিকিয়ো".toList = .ok "wbwK‡qv".toList := by apply bijoy_fast; decide +kernel
example : bijoy "নিবিতেছিলেন".toList = .ok "wbwe‡ZwQ‡jb".toList := by apply bijoy_fast; decide +kernel
example : bijoy "নিরেট".toList = .ok "wb‡iU".toList := by apply bijoy_fast; decide +kernel

/- 160 samples -/
end Riti.BijoySamplesDict
