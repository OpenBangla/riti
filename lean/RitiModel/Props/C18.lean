/-
Props/C18 — emoji candidates.  Outside ANSI mode an emoticon offers its emoji (and, phonetic, the
typed text stays available); an English (phonetic) / Bengali (fixed) emoji name offers all emoji
listed for it, in table order, wrapped in the punctuation of the word.  In the phonetic method emoji
never remove or reorder the other candidates (`emoji_transparent_partial`); in the fixed method they share
the nine places with the dictionary words, so both "all emoji" and "never remove" hold only while the list is
not full (`names_cut_off_fixed`, `fixed_emoji_displaces_word`).

The three tables (`Env.emoticon`, `Env.emojiByName`, `Env.emojiBengali`) are parameters: every
theorem is stated for EVERY table.  Part A: phonetic method.  Part B: fixed method (any admissible
`sort_unstable` ordering, then truncation).  Part C: witnesses and non-vacuity.
`emojiItems` (the items built for a name: the listed emoji, wrapped, numbered from 1) is defined in Lemmas/Candidates,
in this namespace.
-/
import RitiModel.Lemmas.Split
import RitiModel.Lemmas.FixedSuggest
import RitiModel.Lemmas.Emoji
import RitiModel.Lemmas.Okkhor
import RitiModel.Props.C07
namespace Riti.C18
open Riti Riti.Gen

/-! ## A. phonetic method -/

theorem emojiItems_variant {parts : Parts} {es : List Str} {r : Rank} (h : r ∈ emojiItems parts es) :
    r.variant = .emoji := by
  obtain ⟨p, _, rfl⟩ := List.mem_map.mp h
  rfl

/-- typing an emoticon of the table offers its emoji — every table, memo and option vector outside ANSI mode -/
theorem emoticon_emoji_offered (env : Env) (cfg : Cfg) (cache : Memo) (term e : Str)
    (hansi : cfg.ansi = false) (he : env.emoticon term = some e) :
    e ∈ (suggestList env cfg cache term).map Rank.text := by
  refine List.mem_map.mpr ⟨Rank.emoji e emojiDefaultRank, ?_, rfl⟩
  rw [suggestList, mem_sortStable, unsorted_of_emoticon hansi he]
  exact List.mem_append_right _ (List.mem_singleton_self _)

/-- the prepared parts of a text that is all punctuation: its transliteration, an empty word and
    the transliteration of the empty text (smart quoting does nothing when the word is empty) -/
theorem preparedParts_all_meta (env : Env) (cfg : Cfg) (term : Str) (h : term.all isMeta = true) :
    preparedParts env cfg term = ⟨env.convert term, [], env.convert []⟩ := by
  unfold preparedParts
  simp only [split_all_meta false (List.all_eq_true.1 h)]
  rw [smartQuoter_of_word_nil rfl, ite_self]

/-- `PunctFaithful`: the transliterated leading punctuation reproduces the WHOLE typed text only if
    the whole text is punctuation.  (The code tests `term != preceding` against the transliterated
    part; this says the test means what its comment says.) -/
def PunctFaithful (env : Env) (cfg : Cfg) (term : Str) : Prop :=
  term = (preparedParts env cfg term).pre → term.all isMeta = true

instance (env : Env) (cfg : Cfg) (term : Str) : Decidable (PunctFaithful env cfg term) := by
  unfold PunctFaithful; exact inferInstance

theorem punctFaithful_of_length (env : Env) (cfg : Cfg) (term : Str)
    (hlen : (env.convert (term.takeWhile isMeta)).length ≤ (term.takeWhile isMeta).length) :
    PunctFaithful env cfg term := by
  intro hpre
  apply all_meta_of_takeWhile_length
  have h1 : (preparedParts env cfg term).pre.length = (env.convert (term.takeWhile isMeta)).length := by
    unfold preparedParts
    simp only [split_pre_takeWhile]
    split
    · exact (smartQuoter_length _).1
    · rfl
  have h2 : term.length = (preparedParts env cfg term).pre.length := congrArg List.length hpre
  omega

/-- the concrete okkhor transliteration is `PunctFaithful` for every typed text and option vector
    (it never lengthens punctuation: `okConvert_meta_length`, from the generated pattern table) -/
theorem punctFaithful_okkhor (env : Env) (cfg : Cfg) (term : Str) (hconv : env.convert = okConvert) :
    PunctFaithful env cfg term :=
  punctFaithful_of_length env cfg term (by rw [hconv]; exact okConvert_meta_length _ List.all_takeWhile)

/-- beside an emoticon's emoji the typed text is pushed (`Last _ 1`) unless it equals the leading punctuation: that
    item, or an earlier candidate with the very same text, is in the list -/
theorem typed_offered {env : Env} {cfg : Cfg} {cache : Memo} {term e : Str}
    (hansi : cfg.ansi = false) (he : env.emoticon term = some e) (hne : term ≠ (preparedParts env cfg term).pre) :
    term ∈ (suggestList env cfg cache term).map Rank.text := by
  obtain ⟨x, hx, hxt⟩ := exists_text_pushChecked (dictList env cache (preparedParts env cfg term)) (.last term 1)
  refine List.mem_map.mpr ⟨x, ?_, hxt⟩
  rw [suggestList, mem_sortStable, unsorted_of_emoticon hansi he, if_pos (by simpa using hne)]
  exact List.mem_append_left _ hx

/-- typing an emoticon of the table offers its emoji AND keeps the literal typed text available:
    either as the pushed `Last term 1` item (or an earlier candidate with that very text), or —
    when the text was captured as leading punctuation, so that nothing is pushed — as the
    transliteration candidate.  For every table, memo and option vector outside ANSI mode, for
    every `convert` with `convert "" = ""` and `PunctFaithful`; `emoticon_text_lost` shows that
    the literal text IS lost for a transliteration violating `PunctFaithful`. -/
theorem emoticon_offered (env : Env) (cfg : Cfg) (cache : Memo) (term e : Str)
    (hansi : cfg.ansi = false) (hnil : env.convert [] = []) (hpf : PunctFaithful env cfg term)
    (he : env.emoticon term = some e) :
    e ∈ (suggestList env cfg cache term).map Rank.text ∧
      term ∈ (suggestList env cfg cache term).map Rank.text := by
  refine ⟨emoticon_emoji_offered env cfg cache term e hansi he, ?_⟩
  by_cases hpre : term = (preparedParts env cfg term).pre
  · -- the text is all punctuation and its own transliteration: it is the transliteration candidate
    have h := translit_mem_suggestList env cfg cache term
    rw [preparedParts_all_meta env cfg term (hpf hpre)] at h hpre
    simp only [hnil, wrapText, List.append_nil] at h hpre
    rwa [← hpre] at h
  · exact typed_offered hansi he hpre

/-- `emoticon_offered` for the real transliteration (the okkhor model): no side condition left —
    every emoticon table, memo, typed text and option vector outside ANSI mode -/
theorem emoticon_offered_okkhor (env : Env) (cfg : Cfg) (cache : Memo) (term e : Str)
    (hconv : env.convert = okConvert) (hansi : cfg.ansi = false) (he : env.emoticon term = some e) :
    e ∈ (suggestList env cfg cache term).map Rank.text ∧
      term ∈ (suggestList env cfg cache term).map Rank.text :=
  emoticon_offered env cfg cache term e hansi (by rw [hconv]; rfl) (punctFaithful_okkhor env cfg term hconv) he

/-- when the text is not all captured as leading punctuation no hypothesis on `convert` is needed -/
theorem emoticon_offered_of_ne_pre (env : Env) (cfg : Cfg) (cache : Memo) (term e : Str)
    (hansi : cfg.ansi = false) (hne : term ≠ (preparedParts env cfg term).pre)
    (he : env.emoticon term = some e) :
    e ∈ (suggestList env cfg cache term).map Rank.text ∧
      term ∈ (suggestList env cfg cache term).map Rank.text :=
  ⟨emoticon_emoji_offered env cfg cache term e hansi he, typed_offered hansi he hne⟩

/-! ### emoji names -/

theorem emojiItems_sublist (env : Env) (cfg : Cfg) (cache : Memo) (term : Str) (es : List Str)
    (hansi : cfg.ansi = false) (he : env.emoticon term = none)
    (hes : env.emojiByName (preparedParts env cfg term).word = some es) :
    (emojiItems (preparedParts env cfg term) es).Sublist (suggestList env cfg cache term) := by
  have hsub : (emojiItems (preparedParts env cfg term) es).Sublist (C07.unsorted env cfg cache term) := by
    rw [C07.unsorted, addExtras_eq, coreItems, ← map_wrapR_nameItems_eq hes]
    simp only [hansi, he, Bool.false_eq_true, if_false]
    exact ((List.sublist_append_right _ _).map _).trans (List.sublist_append_left _ _)
  -- the sort keeps the emoji of the list in their order
  have h := hsub.filter (fun r => r.variant == .emoji)
  rw [List.filter_eq_self.mpr fun r hr => by simp [emojiItems_variant hr], ← sortStable_filter_emoji] at h
  exact h.trans List.filter_sublist

/-- typing an English emoji name offers ALL emoji listed for it, in table order, each wrapped in
    the (transliterated, smart-quoted) punctuation around the word — for every table, memo and
    option vector outside ANSI mode.  (An emoticon match takes precedence: `he`.) -/
theorem names_offered (env : Env) (cfg : Cfg) (cache : Memo) (term : Str) (es : List Str)
    (hansi : cfg.ansi = false) (he : env.emoticon term = none)
    (hes : env.emojiByName (preparedParts env cfg term).word = some es) :
    (es.map (wrapText (preparedParts env cfg term).pre (preparedParts env cfg term).trail)).Sublist
      ((suggestList env cfg cache term).map Rank.text) := by
  rw [← emojiItems_text]
  exact (emojiItems_sublist env cfg cache term es hansi he hes).map Rank.text

/-- with a clean memo (every reachable memo) the emoji candidates are EXACTLY the listed emoji,
    in table order, the `i`-th carrying the number `i` -/
theorem names_exact (env : Env) (cfg : Cfg) (cache : Memo) (term : Str) (es : List Str)
    (hclean : MemoClean cache) (hansi : cfg.ansi = false) (he : env.emoticon term = none)
    (hes : env.emojiByName (preparedParts env cfg term).word = some es) :
    (suggestList env cfg cache term).filter (fun r => r.variant == .emoji) =
      emojiItems (preparedParts env cfg term) es := by
  rw [suggestList, sortStable_filter_emoji, filter_emoji_unsorted hclean, if_neg (by simp [hansi]), he]
  exact map_wrapR_nameItems_eq hes

/-! ### emoji never disturb the other candidates -/

/-- the environment with both phonetic emoji sources switched off -/
def noEmoji (env : Env) : Env := { env with emoticon := fun _ => none, emojiByName := fun _ => none }

theorem unsorted_noEmoji (env : Env) (cfg : Cfg) (cache : Memo) (term : Str) :
    C07.unsorted (noEmoji env) cfg cache term =
      (if cfg.english && term != (preparedParts env cfg term).pre
        then pushChecked (dictList env cache (preparedParts env cfg term)) (Rank.last term 3)
        else dictList env cache (preparedParts env cfg term)) := by
  show addExtras (noEmoji env) cfg term (preparedParts env cfg term) (dictList env cache (preparedParts env cfg term)) = _
  rw [addExtras, emojiStage_no_emoticon (env := noEmoji env) rfl]
  simp [nameItems, noEmoji]

/-- `EnglishNotEmoji`: with the English option on, no emoji offered for the word has (wrapped)
    exactly the typed text as its text.  (Emoji are appended before the raw English text is
    `push_checked`, so such an emoji would suppress the English item.) -/
def EnglishNotEmoji (env : Env) (cfg : Cfg) (term : Str) : Prop :=
  cfg.english = true → ∀ es, env.emojiByName (preparedParts env cfg term).word = some es →
    term ∉ es.map (wrapText (preparedParts env cfg term).pre (preparedParts env cfg term).trail)

-- the same proposition with `es` bounded by membership in the `Option`, which instance search decides
instance (env : Env) (cfg : Cfg) (term : Str) : Decidable (EnglishNotEmoji env cfg term) :=
  inferInstanceAs (Decidable (cfg.english = true → ∀ es ∈ env.emojiByName (preparedParts env cfg term).word,
    term ∉ es.map (wrapText (preparedParts env cfg term).pre (preparedParts env cfg term).trail)))

/-- emoji are transparent: when no emoticon matched, deleting the emoji candidates from the list
    gives exactly the list computed with both emoji tables switched off — same items, same order.
    For every table, option vector (ANSI or not) and every clean memo (`MemoClean`: every memo the
    engine can reach; a memo holding an emoji item is `emoji_transparent_needs_clean`), under
    `EnglishNotEmoji` (else `emoji_transparent_english_fails`).  No `RanksSeparated`-style
    hypothesis is needed: the pipeline numbers its emoji in ascending order, and that is enough
    (`sortStable_filter_nonEmoji`) although the comparator is not transitive. -/
theorem emoji_transparent_partial (env : Env) (cfg : Cfg) (cache : Memo) (term : Str)
    (hclean : MemoClean cache) (he : env.emoticon term = none) (hen : EnglishNotEmoji env cfg term) :
    (suggestList env cfg cache term).filter (fun r => r.variant != .emoji) =
      suggestList (noEmoji env) cfg cache term := by
  have hD := dictList_nonEmoji (env := env) hclean (preparedParts env cfg term)
  -- the items appended by name are emoji, and with the English option on none of them has the typed text
  have hE : ∀ x ∈ (if cfg.ansi then [] else (nameItems env (preparedParts env cfg term).word).map
      (wrapR (preparedParts env cfg term).pre (preparedParts env cfg term).trail)),
      nonEmoji x = false ∧ (cfg.english = true → x.text ≠ term) := by
    intro x hx
    have hx := (List.mem_ite_nil_left.mp hx).2
    cases hes : env.emojiByName (preparedParts env cfg term).word with
    | none => simp [nameItems, hes] at hx
    | some es =>
      rw [map_wrapR_nameItems_eq hes] at hx
      refine ⟨by simp [emojiItems_variant hx], fun heng hxt => hen heng es hes ?_⟩
      rw [← emojiItems_text]
      exact List.mem_map.mpr ⟨x, hx, hxt⟩
  have hf : (C07.beforeEnglish env cfg cache term).filter nonEmoji = dictList env cache (preparedParts env cfg term) := by
    rw [beforeEnglish_of_no_emoticon he, List.filter_append, List.filter_eq_self.mpr hD,
      List.filter_eq_nil_iff.mpr fun x hx => by simp [(hE x hx).1], List.append_nil]
  rw [filter_nonEmoji_suggestList hclean, C07.suggestList_eq, unsorted_noEmoji, unsorted_of_no_emoticon he]
  congr 1
  split
  · next hc =>
    rw [filter_pushChecked rfl, hf]
    intro x hx hxt
    rw [beforeEnglish_of_no_emoticon he] at hx
    rcases List.mem_append.mp hx with hx | hx
    · exact hD x hx
    · exact absurd hxt ((hE x hx).2 (Bool.and_eq_true_iff.mp hc).1)
  · exact hf

/-- the same for the list `suggest` returns from any state whose memo is clean (every reachable state) -/
theorem emoji_transparent_suggest (env : Env) (cfg : Cfg) (s : PState) (term : Str)
    (hclean : MemoClean s.cache) (he : env.emoticon term = none) (hen : EnglishNotEmoji env cfg term) :
    (suggest env cfg s term).2.1.filter (fun r => r.variant != .emoji) = (suggest (noEmoji env) cfg s term).2.1 :=
  emoji_transparent_partial env cfg (memoFill env s.userAutocorrect s.cache (preparedParts env cfg term).word) term
    (memoClean_fill _ _ _ _ hclean) he hen

/-- … in particular whenever the English option is off -/
theorem emoji_transparent_no_english (env : Env) (cfg : Cfg) (cache : Memo) (term : Str)
    (hclean : MemoClean cache) (he : env.emoticon term = none) (heng : cfg.english = false) :
    (suggestList env cfg cache term).filter (fun r => r.variant != .emoji) =
      suggestList (noEmoji env) cfg cache term :=
  emoji_transparent_partial env cfg cache term hclean he (fun h => by rw [heng] at h; cases h)

/-- what changes in the emoticon branch: besides the emoji, the typed text is offered as `Last _ 1`
    and the raw English item `Last _ 3` is NOT added whatever the option says (`unsorted_of_emoticon`); the
    dictionary-stage candidates are untouched and keep their order -/
theorem emoji_transparent_emoticon (env : Env) (cfg : Cfg) (cache : Memo) (term e : Str)
    (hclean : MemoClean cache) (hansi : cfg.ansi = false) (he : env.emoticon term = some e) :
    (suggestList env cfg cache term).filter (fun r => r.variant != .emoji) =
      sortStable (if term != (preparedParts env cfg term).pre
        then pushChecked (dictList env cache (preparedParts env cfg term)) (Rank.last term 1)
        else dictList env cache (preparedParts env cfg term)) ∧
    suggestList (noEmoji env) cfg cache term =
      sortStable (if cfg.english && term != (preparedParts env cfg term).pre
        then pushChecked (dictList env cache (preparedParts env cfg term)) (Rank.last term 3)
        else dictList env cache (preparedParts env cfg term)) := by
  refine ⟨?_, by rw [C07.suggestList_eq, unsorted_noEmoji]⟩
  have hD := dictList_nonEmoji (env := env) hclean (preparedParts env cfg term)
  rw [filter_nonEmoji_suggestList hclean, C07.unsorted, unsorted_of_emoticon hansi he, List.filter_append,
    List.filter_eq_self.mpr]
  · exact congrArg sortStable (List.append_nil _)
  · intro x hx
    split at hx
    · exact (mem_pushChecked hx).elim (hD x) (fun h => h ▸ rfl)
    · exact hD x hx

/-! ## B. fixed method -/

/-- the list `create_dictionary_suggestion` stores and shows (`C15.shown_is_returned`: the returned
    suggestion lists exactly its texts) -/
abbrev shown (w : World) (cfg : Cfg) (s : FState) : List Rank := (fDictSuggestion w cfg s).1.suggestions

/-- the returned suggestion lists exactly the texts of `shown` -/
theorem shown_is_returned (w : World) (cfg : Cfg) (s : FState) :
    (fDictSuggestion w cfg s).2 = .full s.buffer ((shown w cfg s).map Rank.text) 0 cfg.ansi := rfl

/-- fixed method, emoticon typed (raw keys): the single emoji item, numbered 1 -/
theorem fixedEmoji_emoticon {env : Env} {cfg : Cfg} {parts : Parts} {typed e : Str}
    (hansi : cfg.ansi = false) (he : env.emoticon typed = some e) :
    fixedEmoji env cfg parts typed = [Rank.emoji e 1] := by
  simp [fixedEmoji, hansi, he, emojiDefaultRank]

/-- fixed method, no emoticon: the Bengali name table is asked for the word WITHOUT its ZWNJs, and
    every listed emoji becomes an item, wrapped, numbered 1, 2, 3, … -/
theorem fixedEmoji_names {env : Env} {cfg : Cfg} {parts : Parts} {typed : Str} {es : List Str}
    (hansi : cfg.ansi = false) (he : env.emoticon typed = none)
    (hes : env.emojiBengali (parts.word.filter (fun c => c != cZWNJ)) = some es) :
    fixedEmoji env cfg parts typed = emojiItems parts es := by
  simp only [fixedEmoji, hansi, he, hes, emojiItems]
  rfl

/-- the name look-up ignores ZWNJ (the clause repaired by fix commit 0b3a934): two words that
    differ only in ZWNJs, in the same punctuation, get the same emoji items -/
theorem fixed_name_lookup_ignores_zwnj (env : Env) (cfg : Cfg) (p q : Parts) (typed : Str)
    (hpre : p.pre = q.pre) (htrail : p.trail = q.trail)
    (hw : p.word.filter (fun c => c != cZWNJ) = q.word.filter (fun c => c != cZWNJ)) :
    fixedEmoji env cfg p typed = fixedEmoji env cfg q typed := by
  simp only [fixedEmoji, hpre, htrail, hw]

/-- in particular the word as composed under traditional joining (ZWNJ before `ু ূ ৃ`) finds the
    emoji of the plain dictionary spelling -/
theorem fixed_name_lookup_tradKar (env : Env) (cfg : Cfg) (pre trail d typed : Str) :
    fixedEmoji env cfg ⟨pre, tradKarWord d, trail⟩ typed = fixedEmoji env cfg ⟨pre, d, trail⟩ typed :=
  fixed_name_lookup_ignores_zwnj env cfg _ _ typed rfl rfl (tradKar_strip d)

theorem other_le_emoji {y x : Rank} (hy : y.variant = .other) (hx : x.variant = .emoji) :
    y.le x = decide (y.num ≤ x.num) := by
  rw [Bool.eq_iff_iff, Rank.le_iff, decide_eq_true_eq]
  cases y <;> cases x <;> simp_all [keyLe, Rank.classKey, Rank.variant, Rank.num]

/-- the stored number of a dictionary hit is even, so it is `≤ 1` only for distance 0, 128, 256, … -/
theorem hit_num_le_one_iff (item base : Str) :
    (Rank.newSuggestion item base).num ≤ 1 ↔ editDistance base item % 128 = 0 := by
  simp only [Rank.newSuggestion, Rank.num, rankFactor, rankModulus]
  generalize editDistance base item = d
  -- `10 d mod 256` is twice `5 d mod 128`, and 5 is prime to 128
  have h5 : d * 5 % 128 = 0 ↔ d % 128 = 0 := by
    rw [← Nat.dvd_iff_mod_eq_zero, ← Nat.dvd_iff_mod_eq_zero]
    exact ⟨Nat.Coprime.dvd_of_dvd_mul_right (by decide), fun h => Nat.dvd_trans h (Nat.dvd_mul_right _ 5)⟩
  rw [show d * 10 = 2 * (d * 5) by omega, Nat.mul_mod_mul_left 2 _ 128, ← h5]
  generalize d * 5 % 128 = y
  omega

/-- an emoji item numbered at most `n` survives ordering and truncation whenever the dictionary hits numbered at most
    `n`, the emoji items and the composed text together do not exceed the number of candidates kept
    (9, or 8 when the raw English text is appended) — for EVERY admissible `sort_unstable` ordering -/
theorem fixed_emoji_kept (w : World) (hs : IsSortPerm w.sorter) (cfg : Cfg) (s : FState) (x : Rank) (n : Nat)
    (hx : x ∈ fixedEmoji w.env cfg (fixedParts cfg s.buffer) s.typed) (hxn : x.num ≤ n)
    (hfew : ((fixedHits w.env cfg (fixedParts cfg s.buffer).word).filter (fun r => decide (r.num ≤ n))).length +
      (fixedEmoji w.env cfg (fixedParts cfg s.buffer) s.typed).length + 1 ≤ (fixedCands w.env cfg s).keep) :
    x ∈ shown w cfg s := by
  have hxe := fixedEmoji_variant hx
  obtain ⟨t, hsub, hc⟩ := fixedCands_shape w.env cfg s
  rw [shown, fDictSuggestion_list]
  apply List.mem_append_left
  apply mem_take_of_few_le (hs _).1 (hs _).2
  · rw [hc]; exact List.mem_cons_of_mem _ (List.mem_append_right _ hx)
  · -- at most: the composed word, the hits numbered at most `n`, the emoji
    have h1 : t.countP ((fun y => y.le x) ∘ wrapR (fixedParts cfg s.buffer).pre (fixedParts cfg s.buffer).trail) ≤
        (fixedHits w.env cfg (fixedParts cfg s.buffer).word).countP (fun r => decide (r.num ≤ n)) := by
      refine Nat.le_trans (List.countP_mono_left fun r hr h => ?_) hsub.countP_le
      rw [Function.comp_apply, other_le_emoji ((wrapR_variant _ _ r).trans (fixedHits_variant (hsub.subset hr))) hxe] at h
      simp only [wrapR_num, decide_eq_true_eq] at h ⊢
      omega
    have h2 := List.countP_le_length (p := fun y => y.le x) (l := fixedEmoji w.env cfg (fixedParts cfg s.buffer) s.typed)
    rw [hc]
    simp only [← List.countP_eq_length_filter, List.countP_cons, List.countP_append, List.countP_map] at hfew ⊢
    split <;> omega

/-- fixed method, outside ANSI mode: the emoji of a typed emoticon is offered — PARTIAL: provided
    fewer than `keep - 1` dictionary hits carry a stored number `≤ 1` (i.e. edit distance from the
    typed word ≡ 0 mod 128, `hit_num_le_one_iff`).  Excluded: words with that many distance-0/128
    hits, which fill the list before the emoji (`emoticon_cut_off_fixed`; needs a table listing
    the typed word many times, not adjacently). -/
theorem emoticon_offered_fixed_partial (w : World) (hs : IsSortPerm w.sorter) (cfg : Cfg) (s : FState) (e : Str)
    (hansi : cfg.ansi = false) (he : w.env.emoticon s.typed = some e)
    (hfew : ((fixedHits w.env cfg (fixedParts cfg s.buffer).word).filter (fun r => decide (r.num ≤ 1))).length + 2 ≤
      (fixedCands w.env cfg s).keep) :
    e ∈ (shown w cfg s).map Rank.text := by
  have hE := fixedEmoji_emoticon (env := w.env) (parts := fixedParts cfg s.buffer) hansi he
  exact List.mem_map.mpr ⟨Rank.emoji e 1, fixed_emoji_kept w hs cfg s _ 1 (by simp [hE]) (Nat.le_refl 1)
    (by rw [hE]; exact hfew), rfl⟩

/-- fixed method, outside ANSI mode: every emoji listed for the Bengali name (the word without
    ZWNJ) is offered, wrapped in the punctuation of the word — PARTIAL: provided the emoji, the
    hits numbered at most like the last emoji, and the composed text fit into the `keep` (9, or 8
    with the raw English text) candidates shown.  Order among the emoji is NOT claimed
    (`sort_unstable`).  Excluded: names with 8 or more emoji — the bundled table lists 10 for
    `হৃদয়`, so two of them can never be shown (`names_cut_off_fixed`). -/
theorem names_offered_fixed_partial (w : World) (hs : IsSortPerm w.sorter) (cfg : Cfg) (s : FState) (es : List Str)
    (hansi : cfg.ansi = false) (he : w.env.emoticon s.typed = none)
    (hes : w.env.emojiBengali ((fixedParts cfg s.buffer).word.filter (fun c => c != cZWNJ)) = some es)
    (hfew : ((fixedHits w.env cfg (fixedParts cfg s.buffer).word).filter (fun r => decide (r.num ≤ es.length))).length +
      es.length + 1 ≤ (fixedCands w.env cfg s).keep) :
    ∀ x ∈ es, wrapText (fixedParts cfg s.buffer).pre (fixedParts cfg s.buffer).trail x ∈ (shown w cfg s).map Rank.text := by
  intro x hx
  have hE := fixedEmoji_names (env := w.env) (typed := s.typed) hansi he hes
  have hx' : wrapText (fixedParts cfg s.buffer).pre (fixedParts cfg s.buffer).trail x ∈
      (emojiItems (fixedParts cfg s.buffer) es).map Rank.text := by
    rw [emojiItems_text]; exact List.mem_map_of_mem hx
  obtain ⟨r, hr, hrx⟩ := List.mem_map.mp hx'
  refine List.mem_map.mpr ⟨r, fixed_emoji_kept w hs cfg s r es.length (hE ▸ hr) ?_ ?_, hrx⟩
  · -- the number of an item is its position in `es`, counted from 1
    obtain ⟨p, hp, rfl⟩ := List.mem_map.mp hr
    have := List.snd_lt_add_of_mem_zipIdx hp
    simp only [Rank.num]; omega
  · rw [hE]; simpa [emojiItems] using hfew

/-- when all candidates fit (no truncation) every emoji item is shown, whatever the numbers -/
theorem fixed_emoji_kept_of_short (w : World) (hs : IsSortPerm w.sorter) (cfg : Cfg) (s : FState) (x : Rank)
    (hx : x ∈ fixedEmoji w.env cfg (fixedParts cfg s.buffer) s.typed)
    (hshort : (fixedCands w.env cfg s).cands.length ≤ (fixedCands w.env cfg s).keep) :
    x ∈ shown w cfg s := by
  rw [shown, fDictSuggestion_list]
  apply List.mem_append_left
  rw [List.take_of_length_le (by rw [(hs _).1.length_eq]; exact hshort)]
  apply (hs _).1.mem_iff.mpr
  rw [fixedCands_cands]
  exact List.mem_append_right _ hx

/-- emoji never remove or reorder the Bengali candidates of the fixed method as far as the ordering
    contract goes: the composed text stays first and the dictionary words shown stay in
    non-decreasing stored number, emoji or not (any admissible ordering); emoji only take places -/
theorem fixed_words_still_ordered (w : World) (hs : IsSortPerm w.sorter) (cfg : Cfg) (s : FState) :
    ((w.sorter (fixedCands w.env cfg s).cands).take (fixedCands w.env cfg s).keep).Pairwise
      (fun a b => a.variant ≠ .emoji → b.variant ≠ .emoji → a.num ≤ b.num) :=
  sorter_take_num_le hs cfg s

/-- the fixed method never shows more than eight emoji (nine candidates, the first of which is the
    composed text) — for every admissible ordering.  So a name with nine or more distinct emoji
    cannot have all of them offered: "all emoji listed" FAILS for such names (`names_cut_off_fixed`). -/
theorem fixed_at_most_eight_emoji (w : World) (hs : IsSortPerm w.sorter) (cfg : Cfg) (s : FState) :
    ((shown w cfg s).filter (fun r => r.variant == .emoji)).length ≤ 8 := by
  obtain ⟨tl, htl⟩ := sorter_head hs cfg s
  -- at most 8 items are kept after the composed word, and the raw-keys item is no emoji
  have hk : ∃ k ≤ 8, (fixedCands w.env cfg s).keep = k + 1 ∧
      (fixedCands w.env cfg s).english.toList.filter (fun r => r.variant == .emoji) = [] := by
    rcases fixedCands_keep_english w.env cfg s with ⟨hk, he, _⟩ | ⟨hk, he, _⟩
    · exact ⟨7, by omega, hk, by rw [he]; rfl⟩
    · exact ⟨8, by omega, hk, by rw [he]; rfl⟩
  obtain ⟨k, hk8, hk, he⟩ := hk
  rw [shown, fDictSuggestion_list, htl, List.filter_append, he, hk, List.take_succ_cons,
    List.filter_cons_of_neg (by rw [wrapR_variant]; simp [Rank.variant]), List.append_nil]
  exact Nat.le_trans (List.length_filter_le _ _) (Nat.le_trans (List.length_take_le _ _) hk8)

/-! ## C. witnesses: non-vacuity, and the negations of the full-strength statements -/

/-- a toy transliteration: `k ↦ ক`, everything else unchanged -/
def eConv (s : Str) : Str := s.map (fun c => if c == 'k' then 'ক' else c)

/-- a small world: emoticons `:)`, `:k` and `-_-` (all punctuation), the name `k` with three emoji,
    two dictionary words for `k` (one an exact match) -/
def eEnv : Env :=
  { convert := eConv
    dictPhonetic := fun w => if w == ['k'] then some [['ক', 'ি'], ['ক']] else some []
    suffix := fun _ => none
    autocorrect := fun _ => none
    emoticon := fun t =>
      if t == [':', ')'] then some ['☺'] else if t == [':', 'k'] then some ['☻']
      else if t == ['-', '_', '-'] then some ['😑'] else none
    emojiByName := fun w => if w == ['k'] then some [['♥'], ['♡'], ['❤']] else none
    emojiBengali := fun _ => none, bijoy := fun s => .ok s, fixedTable := fun _ => [] }

/-- English option on (smart quotes on by default) -/
def eCfg : Cfg := { includeEnglish := true }

/-- the memo after the engine looked the word up, starting from the empty memo -/
def eMemo (w : Str) : Memo := memoFill eEnv [] [] w

/-- the witness memos are clean -/
theorem eMemo_clean (w : Str) : MemoClean (eMemo w) := memoClean_fill _ _ _ _ memoClean_nil

/-- non-vacuity of `emoticon_offered`, first case: `:k` is an emoticon; its emoji, then the
    transliteration, then the typed text as `Last _ 1`; no raw English item although the option is on -/
example : eCfg.ansi = false ∧ eEnv.convert [] = [] ∧ PunctFaithful eEnv eCfg [':', 'k'] ∧
    eEnv.emoticon [':', 'k'] = some ['☻'] ∧
    suggestList eEnv eCfg (eMemo [':', 'k']) [':', 'k'] =
      [.emoji ['☻'] 1, .last [':', 'k'] 1, .last [':', 'ক'] 2] := by decide +kernel

/-- … `:)` is left unchanged by the transliteration: `push_checked` suppresses the `Last _ 1` item,
    the typed text is still there (as the transliteration) -/
example : eEnv.emoticon [':', ')'] = some ['☺'] ∧
    suggestList eEnv eCfg (eMemo [':']) [':', ')'] = [.emoji ['☺'] 1, .last [':', ')'] 2] := by decide +kernel

/-- … second case: `-_-` is captured whole as leading punctuation (`term = pre`), nothing is pushed,
    the typed text is the transliteration candidate -/
example : PunctFaithful eEnv eCfg ['-', '_', '-'] ∧ eEnv.emoticon ['-', '_', '-'] = some ['😑'] ∧
    ['-', '_', '-'] = (preparedParts eEnv eCfg ['-', '_', '-']).pre ∧
    suggestList eEnv eCfg (eMemo []) ['-', '_', '-'] = [.emoji ['😑'] 1, .last ['-', '_', '-'] 2] := by decide +kernel

/-- a transliteration that is not `PunctFaithful`: it turns `(` into `(a` -/
def badEnv : Env :=
  { eEnv with
    convert := fun s => if s == ['('] then ['(', 'a'] else s
    emoticon := fun t => if t == ['(', 'a'] then some ['E'] else none }

/-- "the literal typed text stays available" FAILS for a transliteration that is not
    `PunctFaithful`: for `(a` the transliterated leading punctuation `(` ↦ `(a` equals the typed text,
    the code concludes that the text "is captured as preceding meta characters and already
    included" and pushes nothing — but the candidate is `(aa`.  (Contrived: the bundled
    transliteration never lengthens punctuation; the model takes `convert` as a parameter.) -/
theorem emoticon_text_lost :
    badEnv.convert [] = [] ∧ badEnv.emoticon ['(', 'a'] = some ['E'] ∧ ¬ PunctFaithful badEnv {} ['(', 'a'] ∧
    (suggestList badEnv {} (memoFill badEnv [] [] ['a']) ['(', 'a']).map Rank.text = [['E'], ['(', 'a', 'a']] ∧
    ['(', 'a'] ∉ (suggestList badEnv {} (memoFill badEnv [] [] ['a']) ['(', 'a']).map Rank.text := by decide +kernel

/-- non-vacuity of `names_offered` / `names_exact` / `emoji_transparent_partial`: the name `k` in
    double quotes — exact match, the three emoji in table order wrapped in the curled quotes, the
    farther word, the raw English text; without the emoji sources the same list minus the emoji -/
example : eEnv.emoticon ['"', 'k', '"'] = none ∧
    eEnv.emojiByName (preparedParts eEnv eCfg ['"', 'k', '"']).word = some [['♥'], ['♡'], ['❤']] ∧
    suggestList eEnv eCfg (eMemo ['k']) ['"', 'k', '"'] =
      [.other ['“', 'ক', '”'] 0, .emoji ['“', '♥', '”'] 1, .emoji ['“', '♡', '”'] 2, .emoji ['“', '❤', '”'] 3,
       .other ['“', 'ক', 'ি', '”'] 10, .last ['"', 'k', '"'] 3] ∧
    suggestList (noEmoji eEnv) eCfg (eMemo ['k']) ['"', 'k', '"'] =
      [.other ['“', 'ক', '”'] 0, .other ['“', 'ক', 'ি', '”'] 10, .last ['"', 'k', '"'] 3] := by decide +kernel

/-- non-vacuity of `emoji_transparent_partial`: `EnglishNotEmoji` holds for that input -/
example : EnglishNotEmoji eEnv eCfg ['"', 'k', '"'] := by decide +kernel

/-- the equation of `emoji_transparent_partial` FAILS for a memo that is not clean (not reachable: `memoClean_fill`): an
    emoji item stored in the memo is a "dictionary" candidate, deleted on the left only -/
theorem emoji_transparent_needs_clean :
    let cache : Memo := [(['k'], [Rank.emoji ['Z'] 5])]
    eEnv.emoticon ['k'] = none ∧
    (suggestList eEnv {} cache ['k']).filter (fun r => r.variant != .emoji) = [.last ['ক'] 2] ∧
    suggestList (noEmoji eEnv) {} cache ['k'] = [.emoji ['Z'] 5, .last ['ক'] 2] := by decide +kernel

/-- a table in which the name `k` lists the emoji `k` -/
def engEnv : Env := { eEnv with emojiByName := fun w => if w == ['k'] then some [['k']] else none }

/-- the equation of `emoji_transparent_partial` FAILS with the English option on, for a table violating
    `EnglishNotEmoji`: the emoji whose text is the typed text makes `push_checked` drop the raw
    English item, so the emoji DOES remove a non-emoji candidate.  (Contrived for the bundled tables,
    whose emoji texts are never typeable key sequences.) -/
theorem emoji_transparent_english_fails :
    MemoClean (memoFill engEnv [] [] ['k']) ∧ engEnv.emoticon ['k'] = none ∧ ¬ EnglishNotEmoji engEnv eCfg ['k'] ∧
    (suggestList engEnv eCfg (memoFill engEnv [] [] ['k']) ['k']).filter (fun r => r.variant != .emoji) =
      [.other ['ক'] 0, .other ['ক', 'ি'] 10] ∧
    suggestList (noEmoji engEnv) eCfg (memoFill engEnv [] [] ['k']) ['k'] =
      [.other ['ক'] 0, .other ['ক', 'ি'] 10, .last ['k'] 3] := by
  refine ⟨memoClean_fill _ _ _ _ memoClean_nil, by decide +kernel, ?_, by decide +kernel, by decide +kernel⟩
  intro h
  exact h (by decide +kernel) [['k']] (by decide +kernel) (by decide +kernel)

/-- non-vacuity of `emoticon_offered_okkhor`: the real transliteration, the all-punctuation emoticon
    `-_-` (left unchanged by okkhor, so `term = pre` and nothing is pushed) and `:-)` -/
example :
    let env : Env := { eEnv with convert := okConvert, emoticon := fun t =>
      if t == ['-', '_', '-'] then some ['😑'] else if t == [':', '-', ')'] then some ['☺'] else none }
    env.convert = okConvert ∧
    (suggestList env eCfg (memoFill env [] [] []) ['-', '_', '-']).map Rank.text = [['😑'], ['-', '_', '-']] ∧
    (suggestList env eCfg (memoFill env [] [] [':']) [':', '-', ')']).map Rank.text =
      [['☺'], [':', '-', ')'], ['ঃ', '-', ')']] := by
  refine ⟨rfl, by decide +kernel, by decide +kernel⟩

/-! ### fixed method -/

def chK : Char := Char.ofNat 2453   -- ক
def chKh : Char := Char.ofNat 2454  -- খ
def chG : Char := Char.ofNat 2455   -- গ
def chPh : Char := Char.ofNat 2475  -- ফ
def chL : Char := Char.ofNat 2482   -- ল

/-- a world for the fixed method: every dictionary table is `table`; the emoticon `:)`; the Bengali
    names `ফুল` (two emoji) and `ক` (ten emoji, like `হৃদয়` in the bundled table) -/
def fEnv (table : List Str) : Env :=
  { convert := id, dictPhonetic := fun _ => some [], suffix := fun _ => none, autocorrect := fun _ => none
    emoticon := fun t => if t == [':', ')'] then some ['☺'] else none
    emojiByName := fun _ => none
    emojiBengali := fun w => if w == [chPh, cUKar, chL] then some [['A'], ['B']]
      else if w == [chK] then some ((List.range 10).map (fun i => [Char.ofNat (48 + i)])) else none
    bijoy := fun s => .ok s, fixedTable := fun _ => table }

/-- … ordered by `keySort`, an admissible ordering -/
def fWorld (table : List Str) : World := { env := fEnv table, layouts := fun _ => none, sorter := keySort }

/-- the `decide`d example for `fixed_name_lookup_ignores_zwnj`: `ফ‌ুল` typed with traditional joining
    (ZWNJ before `ু`) finds the entry of `ফুল` -/
example : fixedEmoji (fEnv []) {} ⟨[], [chPh, cZWNJ, cUKar, chL], []⟩ [] = [.emoji ['A'] 1, .emoji ['B'] 2] ∧
    tradKarWord [chPh, cUKar, chL] = [chPh, cZWNJ, cUKar, chL] := by decide +kernel

/-- non-vacuity of `names_offered_fixed_partial`: traditional joining on, composed `"ফ‌ুল"`: the curled
    composed text, the two emoji wrapped in the curled quotes, a completion -/
example :
    let w := fWorld [[chPh, cUKar, chL], [chPh, cUKar, chL, chK]]
    let cfg : Cfg := { fixedSuggestion := true, fixedKar := true }
    let s : FState := { rbuf := ['"', chL, cUKar, cZWNJ, chPh, '"'], rtyped := [] }
    IsSortPerm w.sorter ∧ cfg.ansi = false ∧ w.env.emoticon s.typed = none ∧
    w.env.emojiBengali ((fixedParts cfg s.buffer).word.filter (fun c => c != cZWNJ)) = some [['A'], ['B']] ∧
    ((fixedHits w.env cfg (fixedParts cfg s.buffer).word).filter (fun r => decide (r.num ≤ 2))).length + 2 + 1 ≤
      (fixedCands w.env cfg s).keep ∧
    shown w cfg s =
      [.first ['“', chPh, cZWNJ, cUKar, chL, '”'], .emoji ['“', 'A', '”'] 1, .emoji ['“', 'B', '”'] 2,
       .other ['“', chPh, cZWNJ, cUKar, chL, chK, '”'] 10] := by
  refine ⟨isSortPerm_keySort, by decide +kernel, by decide +kernel, by decide +kernel, ?_, ?_⟩
  · simp only [fixedCands_eq_R]; decide +kernel
  · simp only [shown, fDict_list_eq_R]; decide +kernel

/-- non-vacuity of `emoticon_offered_fixed_partial`: raw keys `:)` (a layout may map them to anything;
    here the composed text is `কখ`), one completion at distance 1 -/
example :
    let w := fWorld [[chK, chKh, chG]]
    let cfg : Cfg := { fixedSuggestion := true }
    let s : FState := { rbuf := [chKh, chK], rtyped := [')', ':'] }
    IsSortPerm w.sorter ∧ cfg.ansi = false ∧ w.env.emoticon s.typed = some ['☺'] ∧
    ((fixedHits w.env cfg (fixedParts cfg s.buffer).word).filter (fun r => decide (r.num ≤ 1))).length + 2 ≤
      (fixedCands w.env cfg s).keep ∧
    shown w cfg s = [.first [chK, chKh], .emoji ['☺'] 1, .other [chK, chKh, chG] 10] := by
  refine ⟨isSortPerm_keySort, by decide +kernel, by decide +kernel, ?_, ?_⟩
  · simp only [fixedCands_eq_R]; decide +kernel
  · simp only [shown, fDict_list_eq_R]; decide +kernel

/-- a table listing the typed word nine times, never adjacently -/
def tbl9 : List Str := (List.replicate 9 [[chK, chKh], [chK, chKh, chG]]).flatten

/-- "an emoticon offers its emoji" FAILS at full strength in the fixed method: with eight surviving
    exact matches (stored number 0) the nine places are taken before the emoji (number 1) is
    reached.  Needs a table listing the typed word nine times, never adjacently (`dedup()` removes
    adjacent repeats only; the bundled tables do repeat a few words, but not that often). -/
theorem emoticon_cut_off_fixed :
    let w := fWorld tbl9
    let cfg : Cfg := { fixedSuggestion := true }
    let s : FState := { rbuf := [chKh, chK], rtyped := [')', ':'] }
    IsSortPerm w.sorter ∧ cfg.ansi = false ∧ w.env.emoticon s.typed = some ['☺'] ∧
    Rank.emoji ['☺'] 1 ∈ (fixedCands w.env cfg s).cands ∧
    ['☺'] ∉ (shown w cfg s).map Rank.text := by
  refine ⟨isSortPerm_keySort, by decide +kernel, by decide +kernel, ?_, ?_⟩
  · simp only [fixedCands_eq_R]; decide +kernel
  · simp only [shown, fDict_list_eq_R]; decide +kernel

/-- "a Bengali name offers all emoji listed for it" FAILS at full strength in the fixed method: a
    name with ten emoji (the bundled table has one: `হৃদয়`) shows the composed text and the first
    eight; the last two are cut off by the nine-candidate limit (by `fixed_at_most_eight_emoji`
    under EVERY admissible ordering two are missing) -/
theorem names_cut_off_fixed :
    let w := fWorld []
    let cfg : Cfg := { fixedSuggestion := true }
    let s : FState := { rbuf := [chK], rtyped := [] }
    IsSortPerm w.sorter ∧ cfg.ansi = false ∧ w.env.emoticon s.typed = none ∧
    (∃ es, w.env.emojiBengali ((fixedParts cfg s.buffer).word.filter (fun c => c != cZWNJ)) = some es ∧
      ['9'] ∈ es ∧ es.length = 10) ∧
    (shown w cfg s).map Rank.text = [[chK], ['0'], ['1'], ['2'], ['3'], ['4'], ['5'], ['6'], ['7']] := by
  refine ⟨isSortPerm_keySort, by decide +kernel, by decide +kernel, ⟨_, rfl, by decide +kernel, by decide +kernel⟩, ?_⟩
  simp only [shown, fDict_list_eq_R]; decide +kernel

/-- eight distinct one-letter completions of `কখ` -/
def tbl8 : List Str := (List.range 8).map (fun i => [chK, chKh, Char.ofNat (2453 + i)])

/-- in the fixed method an emoji DOES remove a Bengali candidate when the list is full: the nine
    places are shared.  Composed `কখ` with eight completions: without the emoticon all eight are
    shown, with it the emoji (number 1) takes the place of the last completion (number 10).  The
    remaining words keep their order (`fixed_words_still_ordered`). -/
theorem fixed_emoji_displaces_word :
    let w := fWorld tbl8
    let cfg : Cfg := { fixedSuggestion := true }
    (shown w cfg { rbuf := [chKh, chK], rtyped := [] }).map Rank.text =
      [chK, chKh] :: tbl8 ∧
    (shown w cfg { rbuf := [chKh, chK], rtyped := [')', ':'] }).map Rank.text =
      [chK, chKh] :: ['☺'] :: tbl8.take 7 := by
  refine ⟨?_, ?_⟩
  · simp only [shown, fDict_list_eq_R]; decide +kernel
  · simp only [shown, fDict_list_eq_R]; decide +kernel

end Riti.C18
