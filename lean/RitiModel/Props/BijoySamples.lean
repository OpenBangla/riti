/-
Props/BijoySamples — GENERATED by tools/bijoy_samples.py: the Lean model `Riti.bijoy` reproduces the REAL crate's
`poriborton::bijoy2000::unicode_to_bijoy` on every 500th word of data/dictionary.json (BijoySamplesDict) and on
hand-picked hard cases (BijoySamples: the crate's own tests, reph, ra-fola, ya-fola, conjunct + front kar, two-part kars, chandrabindu, hasanta + ZWNJ/ZWJ, digits,
punctuation, curly quotes, ASCII pass-through, unmapped code points, the five panicking code points).
The expected values were printed by the crate itself (tools/bijoy_pairs_src).  Each line is checked by the kernel.
-/
import RitiModel.Lemmas.BijoyFast
namespace Riti.BijoySamples
open Riti Riti.Bijoy

example : bijoy "কতল".toList = .ok "KZj".toList := by apply bijoy_fast; decide +kernel
example : bijoy "সুতরাং".toList = .ok "myZivs".toList := by apply bijoy_fast; decide +kernel
example : bijoy "চাঁদ".toList = .ok "Pvu`".toList := by apply bijoy_fast; decide +kernel
example : bijoy "দুঃখ".toList = .ok "`ytL".toList := by apply bijoy_fast; decide +kernel
example : bijoy "অর্ক".toList = .ok "AK©".toList := by apply bijoy_fast; decide +kernel
example : bijoy "কিংকর্তব্যবিমূঢ়".toList = .ok "wKsKZ©e¨weg~p".toList := by apply bijoy_fast; decide +kernel
example : bijoy "ংঃঅআইঈউঊঋএঐওঔকখগঘঙচছজঝঞটঠডঢণতথদধনপফবভমযরলশষসহঢ়ড়য়য".toList = .ok "stAAvBCDEFGHIJKLMNOPQRSTUVWXYZ_`abcdefghijklmnpoqh".toList := by apply bijoy_fast; decide +kernel
example : bijoy "০১২৩৪৫৬৭৮৯৳।॥".toList = .ok "0123456789$|\\".toList := by apply bijoy_fast; decide +kernel
example : bijoy "বাংলা আমার ভাষা। আমি বাংলায় দেখি স্বপ্ন!".toList = .ok "evsjv Avgvi fvlv| Avwg evsjvq †`wL ¯^cœ!".toList := by apply bijoy_fast; decide +kernel
example : bijoy "\"'/{}();:![]\\".toList = .ok "\"'/{}();:![]\\".toList := by apply bijoy_fast; decide +kernel
example : bijoy "“আজো তার ফুলকলিদের ঘুম টুটেনি, তন্দ্রাতে বিলোল”".toList = .ok "ÒAv‡Rv Zvi dzjKwj‡`i Nyg Uz‡Uwb, Z›`ªv‡Z we‡jvjÓ".toList := by apply bijoy_fast; decide +kernel
example : bijoy "‘আসেনি দখিন হাওয়া গজল গাওয়া মৌমাছি বিভোল’".toList = .ok "ÔAv‡mwb `wLb nvIqv MRj MvIqv †gŠgvwQ we‡fvjÕ".toList := by apply bijoy_fast; decide +kernel
example : bijoy "কুহেলিকা".toList = .ok "Kz‡nwjKv".toList := by apply bijoy_fast; decide +kernel
example : bijoy "কূকেকৈকী".toList = .ok "K‚‡K‰KKx".toList := by apply bijoy_fast; decide +kernel
example : bijoy "কি".toList = .ok "wK".toList := by apply bijoy_fast; decide +kernel
example : bijoy "কীট".toList = .ok "KxU".toList := by apply bijoy_fast; decide +kernel
example : bijoy "কে".toList = .ok "†K".toList := by apply bijoy_fast; decide +kernel
example : bijoy "স্পেক".toList = .ok "†¯cK".toList := by apply bijoy_fast; decide +kernel
example : bijoy "কৈ".toList = .ok "ˆK".toList := by apply bijoy_fast; decide +kernel
example : bijoy "কো".toList = .ok "†Kv".toList := by apply bijoy_fast; decide +kernel
example : bijoy "কৌ".toList = .ok "†KŠ".toList := by apply bijoy_fast; decide +kernel
example : bijoy "ককোন".toList = .ok "K‡Kvb".toList := by apply bijoy_fast; decide +kernel
example : bijoy "ককৌন".toList = .ok "K‡KŠb".toList := by apply bijoy_fast; decide +kernel
example : bijoy "রু".toList = .ok "i“".toList := by apply bijoy_fast; decide +kernel
example : bijoy "নু".toList = .ok "by".toList := by apply bijoy_fast; decide +kernel
example : bijoy "ণু".toList = .ok "Yy".toList := by apply bijoy_fast; decide +kernel
example : bijoy "ড়ু".toList = .ok "o–".toList := by apply bijoy_fast; decide +kernel
example : bijoy "কু".toList = .ok "Kz".toList := by apply bijoy_fast; decide +kernel
example : bijoy "গু".toList = .ok "¸".toList := by apply bijoy_fast; decide +kernel
example : bijoy "শু".toList = .ok "ï".toList := by apply bijoy_fast; decide +kernel
example : bijoy "হু".toList = .ok "û".toList := by apply bijoy_fast; decide +kernel
example : bijoy "ষু".toList = .ok "ly".toList := by apply bijoy_fast; decide +kernel
example : bijoy "ক্ষু".toList = .ok "¶z".toList := by apply bijoy_fast; decide +kernel
example : bijoy "রূ".toList = .ok "iƒ".toList := by apply bijoy_fast; decide +kernel
example : bijoy "ণূ".toList = .ok "Y~".toList := by apply bijoy_fast; decide +kernel
example : bijoy "কূ".toList = .ok "K‚".toList := by apply bijoy_fast; decide +kernel
example : bijoy "ষূ".toList = .ok "l~".toList := by apply bijoy_fast; decide +kernel
example : bijoy "ক্ষূ".toList = .ok "¶‚".toList := by apply bijoy_fast; decide +kernel
example : bijoy "হৃ".toList = .ok "ü".toList := by apply bijoy_fast; decide +kernel
example : bijoy "রৃ".toList = .ok "i„".toList := by apply bijoy_fast; decide +kernel
example : bijoy "কৃ".toList = .ok "K…".toList := by apply bijoy_fast; decide +kernel
example : bijoy "নৃ".toList = .ok "b„".toList := by apply bijoy_fast; decide +kernel
example : bijoy "ন্ত্র্য".toList = .ok "š¿¨".toList := by apply bijoy_fast; decide +kernel
example : bijoy "অল্প".toList = .ok "Aí".toList := by apply bijoy_fast; decide +kernel
example : bijoy "বক্স".toList = .ok "e·".toList := by apply bijoy_fast; decide +kernel
example : bijoy "পক্ব".toList = .ok "cK¡".toList := by apply bijoy_fast; decide +kernel
example : bijoy "সংখ্যা".toList = .ok "msL¨v".toList := by apply bijoy_fast; decide +kernel
example : bijoy "উৎস".toList = .ok "Drm".toList := by apply bijoy_fast; decide +kernel
example : bijoy "বিদ্যুৎ".toList = .ok "we`¨yr".toList := by apply bijoy_fast; decide +kernel
example : bijoy "কিন্তু".toList = .ok "wKš‘".toList := by apply bijoy_fast; decide +kernel
example : bijoy "আগন্তুক".toList = .ok "AvMš‘K".toList := by apply bijoy_fast; decide +kernel
example : bijoy "র\u200d্যাব".toList = .ok "i¨ve".toList := by apply bijoy_fast; decide +kernel
example : bijoy "ফিনান্সিয়াল".toList = .ok "wdbvwÝqvj".toList := by apply bijoy_fast; decide +kernel
example : bijoy "স্প্\u200cল".toList = .ok "¯c&j".toList := by apply bijoy_fast; decide +kernel
example : bijoy "ঙ্\u200cক্ত".toList = .ok "O&³".toList := by apply bijoy_fast; decide +kernel
example : bijoy "ল্\u200cভ".toList = .ok "j&f".toList := by apply bijoy_fast; decide +kernel
example : bijoy "ল্\u200cফ".toList = .ok "j&d".toList := by apply bijoy_fast; decide +kernel
example : bijoy "গ্\u200cণ".toList = .ok "M&Y".toList := by apply bijoy_fast; decide +kernel
example : bijoy "্".toList = .ok "&".toList := by apply bijoy_fast; decide +kernel
example : bijoy "ক্".toList = .ok "K&".toList := by apply bijoy_fast; decide +kernel
example : bijoy "কক্ষ্".toList = .ok "K¶&".toList := by apply bijoy_fast; decide +kernel
example : bijoy "আমি বাংলায় গান গাই".toList = .ok "Avwg evsjvq Mvb MvB".toList := by apply bijoy_fast; decide +kernel
example : bijoy "বিজয় ২০০০".toList = .ok "weRq 2000".toList := by apply bijoy_fast; decide +kernel
example : bijoy "র্ক".toList = .ok "K©".toList := by apply bijoy_fast; decide +kernel
example : bijoy "কর্ম".toList = .ok "Kg©".toList := by apply bijoy_fast; decide +kernel
example : bijoy "ধর্ম্ম".toList = .ok "a¤§©".toList := by apply bijoy_fast; decide +kernel
example : bijoy "র্".toList = .ok "©".toList := by apply bijoy_fast; decide +kernel
example : bijoy "র্য".toList = .ok "h©".toList := by apply bijoy_fast; decide +kernel
example : bijoy "র্য্য".toList = .ok "h¨©".toList := by apply bijoy_fast; decide +kernel
example : bijoy "কার্য".toList = .ok "Kvh©".toList := by apply bijoy_fast; decide +kernel
example : bijoy "র্ত্ত".toList = .ok "Ë©".toList := by apply bijoy_fast; decide +kernel
example : bijoy "র্ন্তু".toList = .ok "š—‘".toList := by apply bijoy_fast; decide +kernel
example : bijoy "অর্থ্য".toList = .ok "A_¨©".toList := by apply bijoy_fast; decide +kernel
example : bijoy "র্কে".toList = .ok "†K©".toList := by apply bijoy_fast; decide +kernel
example : bijoy "র্কো".toList = .ok "†K©v".toList := by apply bijoy_fast; decide +kernel
example : bijoy "র্কি".toList = .ok "wK©".toList := by apply bijoy_fast; decide +kernel
example : bijoy "কর্ত্রী".toList = .ok "KÎ©x".toList := by apply bijoy_fast; decide +kernel
example : bijoy "র্্ক".toList = .ok "©".toList := by apply bijoy_fast; decide +kernel
example : bijoy "র\u200d্ক".toList = .ok "".toList := by apply bijoy_fast; decide +kernel
example : bijoy "দ্রু".toList = .ok "`ª“".toList := by apply bijoy_fast; decide +kernel
example : bijoy "গ্রু".toList = .ok "MÖ“".toList := by apply bijoy_fast; decide +kernel
example : bijoy "শ্রু".toList = .ok "kª“".toList := by apply bijoy_fast; decide +kernel
example : bijoy "ত্রু".toList = .ok "Î“".toList := by apply bijoy_fast; decide +kernel
example : bijoy "ভ্রূ".toList = .ok "åƒ".toList := by apply bijoy_fast; decide +kernel
example : bijoy "ন্দ্রু".toList = .ok "›`ª“".toList := by apply bijoy_fast; decide +kernel
example : bijoy "স্প্রু".toList = .ok "¯cÖ“".toList := by apply bijoy_fast; decide +kernel
example : bijoy "ক্রু".toList = .ok "µy".toList := by apply bijoy_fast; decide +kernel
example : bijoy "ঘ্রু".toList = .ok "Nªy".toList := by apply bijoy_fast; decide +kernel
example : bijoy "ট্রু".toList = .ok "Uªy".toList := by apply bijoy_fast; decide +kernel
example : bijoy "ম্প্রূ".toList = .ok "¤cÖƒ".toList := by apply bijoy_fast; decide +kernel
example : bijoy "প্রু".toList = .ok "cÖ“".toList := by apply bijoy_fast; decide +kernel
example : bijoy "ব্রু".toList = .ok "eª“".toList := by apply bijoy_fast; decide +kernel
example : bijoy "দ্রূ".toList = .ok "`ªƒ".toList := by apply bijoy_fast; decide +kernel
example : bijoy "স্রু".toList = .ok "mª“".toList := by apply bijoy_fast; decide +kernel
example : bijoy "ক্রূ".toList = .ok "µ~".toList := by apply bijoy_fast; decide +kernel
example : bijoy "হ্রু".toList = .ok "nªy".toList := by apply bijoy_fast; decide +kernel
example : bijoy "হ্রূ".toList = .ok "nª~".toList := by apply bijoy_fast; decide +kernel
example : bijoy "গ্লু".toList = .ok "M−“".toList := by apply bijoy_fast; decide +kernel
example : bijoy "প্লু".toList = .ok "c\u00ad“".toList := by apply bijoy_fast; decide +kernel
example : bijoy "ব্লু".toList = .ok "e\u00ad“".toList := by apply bijoy_fast; decide +kernel
example : bijoy "শ্লু".toList = .ok "k−“".toList := by apply bijoy_fast; decide +kernel
example : bijoy "স্লু".toList = .ok "¯¬“".toList := by apply bijoy_fast; decide +kernel
example : bijoy "স্প্লু".toList = .ok "¯c−“".toList := by apply bijoy_fast; decide +kernel
example : bijoy "ক্লু".toList = .ok "K¬y".toList := by apply bijoy_fast; decide +kernel
example : bijoy "ল্লু".toList = .ok "j−y".toList := by apply bijoy_fast; decide +kernel
example : bijoy "গ্লূ".toList = .ok "M−ƒ".toList := by apply bijoy_fast; decide +kernel
example : bijoy "স্প্লূ".toList = .ok "¯c−ƒ".toList := by apply bijoy_fast; decide +kernel
example : bijoy "লু".toList = .ok "jy".toList := by apply bijoy_fast; decide +kernel
example : bijoy "লূ".toList = .ok "j~".toList := by apply bijoy_fast; decide +kernel
example : bijoy "ষ্ণু".toList = .ok "òz".toList := by apply bijoy_fast; decide +kernel
example : bijoy "ক্ষ্ণু".toList = .ok "¶èz".toList := by apply bijoy_fast; decide +kernel
example : bijoy "ষ্ণূ".toList = .ok "ò~".toList := by apply bijoy_fast; decide +kernel
example : bijoy "ঢ়ু".toList = .ok "p–".toList := by apply bijoy_fast; decide +kernel
example : bijoy "য়ু".toList = .ok "qy".toList := by apply bijoy_fast; decide +kernel
example : bijoy "য়ূ".toList = .ok "q~".toList := by apply bijoy_fast; decide +kernel
example : bijoy "ড়ূ".toList = .ok "o‚".toList := by apply bijoy_fast; decide +kernel
example : bijoy "ড়ৃ".toList = .ok "o…".toList := by apply bijoy_fast; decide +kernel
example : bijoy "য়ৃ".toList = .ok "q„".toList := by apply bijoy_fast; decide +kernel
example : bijoy "ঢ়ু".toList = .ok "Xz".toList := by apply bijoy_fast; decide +kernel
example : bijoy "য়".toList = .ok "h".toList := by apply bijoy_fast; decide +kernel
example : bijoy "ড়".toList = .ok "W".toList := by apply bijoy_fast; decide +kernel
example : bijoy "্য়".toList = .ok "¨".toList := by apply bijoy_fast; decide +kernel
example : bijoy "গৃ".toList = .ok "M„".toList := by apply bijoy_fast; decide +kernel
example : bijoy "শৃ".toList = .ok "k„".toList := by apply bijoy_fast; decide +kernel
example : bijoy "হৃদয়".toList = .ok "ü`q".toList := by apply bijoy_fast; decide +kernel
example : bijoy "বৃষ্টি".toList = .ok "e„wó".toList := by apply bijoy_fast; decide +kernel
example : bijoy "তৃণ".toList = .ok "Z…Y".toList := by apply bijoy_fast; decide +kernel
example : bijoy "দৃষ্টি".toList = .ok "`„wó".toList := by apply bijoy_fast; decide +kernel
example : bijoy "সৃষ্টি".toList = .ok "m„wó".toList := by apply bijoy_fast; decide +kernel
example : bijoy "কৃষ্ণ".toList = .ok "K…ò".toList := by apply bijoy_fast; decide +kernel
example : bijoy "পৃথিবী".toList = .ok "c„w_ex".toList := by apply bijoy_fast; decide +kernel
example : bijoy "ব্যা".toList = .ok "e¨v".toList := by apply bijoy_fast; decide +kernel
example : bijoy "ব্য".toList = .ok "e¨".toList := by apply bijoy_fast; decide +kernel
example : bijoy "ক্যু".toList = .ok "K¨y".toList := by apply bijoy_fast; decide +kernel
example : bijoy "ত্য".toList = .ok "Z¨".toList := by apply bijoy_fast; decide +kernel
example : bijoy "ন্ত্য".toList = .ok "š—¨".toList := by apply bijoy_fast; decide +kernel
example : bijoy "স্ব্য".toList = .ok "¯^¨".toList := by apply bijoy_fast; decide +kernel
example : bijoy "্য".toList = .ok "¨".toList := by apply bijoy_fast; decide +kernel
example : bijoy "ব্যে".toList = .ok "†e¨".toList := by apply bijoy_fast; decide +kernel
example : bijoy "ব্যো".toList = .ok "†e¨v".toList := by apply bijoy_fast; decide +kernel
example : bijoy "ব্যৌ".toList = .ok "†e¨Š".toList := by apply bijoy_fast; decide +kernel
example : bijoy "দ্ব্যর্থ".toList = .ok "Ø¨_©".toList := by apply bijoy_fast; decide +kernel
example : bijoy "স্বাস্থ্য".toList = .ok "¯^v¯’¨".toList := by apply bijoy_fast; decide +kernel
example : bijoy "র্য্".toList = .ok "h©&".toList := by apply bijoy_fast; decide +kernel
example : bijoy "ব্য্".toList = .ok "&".toList := by apply bijoy_fast; decide +kernel
example : bijoy "স্ত্রী".toList = .ok "¯¿x".toList := by apply bijoy_fast; decide +kernel
example : bijoy "ক্ষি".toList = .ok "w¶".toList := by apply bijoy_fast; decide +kernel
example : bijoy "ক্ষে".toList = .ok "†¶".toList := by apply bijoy_fast; decide +kernel
example : bijoy "ন্দ্রি".toList = .ok "w›`ª".toList := by apply bijoy_fast; decide +kernel
example : bijoy "স্ট্রে".toList = .ok "†÷ª".toList := by apply bijoy_fast; decide +kernel
example : bijoy "ক্ষৈ".toList = .ok "ˆ¶".toList := by apply bijoy_fast; decide +kernel
example : bijoy "ক্ষো".toList = .ok "†¶v".toList := by apply bijoy_fast; decide +kernel
example : bijoy "ক্ষৌ".toList = .ok "†¶Š".toList := by apply bijoy_fast; decide +kernel
example : bijoy "স্প্রিং".toList = .ok "w¯cÖs".toList := by apply bijoy_fast; decide +kernel
example : bijoy "ন্ত্রে".toList = .ok "†š¿".toList := by apply bijoy_fast; decide +kernel
example : bijoy "প্রিয়".toList = .ok "wcÖq".toList := by apply bijoy_fast; decide +kernel
example : bijoy "ত্রৈ".toList = .ok "ˆÎ".toList := by apply bijoy_fast; decide +kernel
example : bijoy "চ্ছ্বে".toList = .ok "†”Q¡".toList := by apply bijoy_fast; decide +kernel
example : bijoy "বেবে".toList = .ok "†e‡e".toList := by apply bijoy_fast; decide +kernel
example : bijoy " বে".toList = .ok " †e".toList := by apply bijoy_fast; decide +kernel
example : bijoy "\tবে".toList = .ok "\t†e".toList := by apply bijoy_fast; decide +kernel
example : bijoy "\nবে".toList = .ok "\n†e".toList := by apply bijoy_fast; decide +kernel
example : bijoy "আবে".toList = .ok "Av‡e".toList := by apply bijoy_fast; decide +kernel
example : bijoy "অে".toList = .ok "‡A".toList := by apply bijoy_fast; decide +kernel
example : bijoy "ে".toList = .ok "†".toList := by apply bijoy_fast; decide +kernel
example : bijoy "ৈ".toList = .ok "ˆ".toList := by apply bijoy_fast; decide +kernel
example : bijoy "ি".toList = .ok "w".toList := by apply bijoy_fast; decide +kernel
example : bijoy "ো".toList = .ok "†v".toList := by apply bijoy_fast; decide +kernel
example : bijoy "ৌ".toList = .ok "†Š".toList := by apply bijoy_fast; decide +kernel
example : bijoy "েে".toList = .ok "†‡".toList := by apply bijoy_fast; decide +kernel
example : bijoy "োে".toList = .ok "†v‡".toList := by apply bijoy_fast; decide +kernel
example : bijoy "a ে".toList = .ok "a †".toList := by apply bijoy_fast; decide +kernel
example : bijoy "aে".toList = .ok "a†".toList := by apply bijoy_fast; decide +kernel
example : bijoy "কক্কে".toList = .ok "K‡°".toList := by apply bijoy_fast; decide +kernel
example : bijoy "ক্ক কে".toList = .ok "° †K".toList := by apply bijoy_fast; decide +kernel
example : bijoy "কাে".toList = .ok "Kv‡".toList := by apply bijoy_fast; decide +kernel
example : bijoy "ংে".toList = .ok "†s".toList := by apply bijoy_fast; decide +kernel
example : bijoy "ঁে".toList = .ok "†u".toList := by apply bijoy_fast; decide +kernel
example : bijoy "৫ে".toList = .ok "†5".toList := by apply bijoy_fast; decide +kernel
example : bijoy "কোকো".toList = .ok "†Kv‡Kv".toList := by apply bijoy_fast; decide +kernel
example : bijoy "মৌ".toList = .ok "†gŠ".toList := by apply bijoy_fast; decide +kernel
example : bijoy "বৌদি".toList = .ok "†eŠw`".toList := by apply bijoy_fast; decide +kernel
example : bijoy "ছোট".toList = .ok "†QvU".toList := by apply bijoy_fast; decide +kernel
example : bijoy "ঘোড়া".toList = .ok "†Nvov".toList := by apply bijoy_fast; decide +kernel
example : bijoy "ক্ষোভ".toList = .ok "†¶vf".toList := by apply bijoy_fast; decide +kernel
example : bijoy "নৌকা".toList = .ok "†bŠKv".toList := by apply bijoy_fast; decide +kernel
example : bijoy "সৌর".toList = .ok "†mŠi".toList := by apply bijoy_fast; decide +kernel
example : bijoy "স্তো".toList = .ok "†¯—v".toList := by apply bijoy_fast; decide +kernel
example : bijoy "কো".toList = .ok "†Kv".toList := by apply bijoy_fast; decide +kernel
example : bijoy "কৌ".toList = .ok "†K".toList := by apply bijoy_fast; decide +kernel
example : bijoy "ৗ".toList = .ok "".toList := by apply bijoy_fast; decide +kernel
example : bijoy "ঁ".toList = .ok "u".toList := by apply bijoy_fast; decide +kernel
example : bijoy "কঁ".toList = .ok "Ku".toList := by apply bijoy_fast; decide +kernel
example : bijoy "কাঁ".toList = .ok "Kvu".toList := by apply bijoy_fast; decide +kernel
example : bijoy "ঁক".toList = .ok "uK".toList := by apply bijoy_fast; decide +kernel
example : bijoy "পাঁচ".toList = .ok "cvuP".toList := by apply bijoy_fast; decide +kernel
example : bijoy "ইঁদুর".toList = .ok "Bu`yi".toList := by apply bijoy_fast; decide +kernel
example : bijoy "উঁচু".toList = .ok "DuPz".toList := by apply bijoy_fast; decide +kernel
example : bijoy "হ্যাঁ".toList = .ok "n¨vu".toList := by apply bijoy_fast; decide +kernel
example : bijoy "বাঃ".toList = .ok "evt".toList := by apply bijoy_fast; decide +kernel
example : bijoy "ং".toList = .ok "s".toList := by apply bijoy_fast; decide +kernel
example : bijoy "ঃ".toList = .ok "t".toList := by apply bijoy_fast; decide +kernel
example : bijoy "ৎ".toList = .ok "r".toList := by apply bijoy_fast; decide +kernel
example : bijoy "উৎপাত".toList = .ok "DrcvZ".toList := by apply bijoy_fast; decide +kernel
example : bijoy "সৎ".toList = .ok "mr".toList := by apply bijoy_fast; decide +kernel
example : bijoy "ক্\u200c".toList = .ok "K&".toList := by apply bijoy_fast; decide +kernel
example : bijoy "ক্\u200cক".toList = .ok "K&K".toList := by apply bijoy_fast; decide +kernel
example : bijoy "\u200c".toList = .ok "".toList := by apply bijoy_fast; decide +kernel
example : bijoy "\u200d".toList = .ok "".toList := by apply bijoy_fast; decide +kernel
example : bijoy "ক\u200c".toList = .ok "K".toList := by apply bijoy_fast; decide +kernel
example : bijoy "ক\u200d".toList = .ok "".toList := by apply bijoy_fast; decide +kernel
example : bijoy "ক্\u200d".toList = .ok "".toList := by apply bijoy_fast; decide +kernel
example : bijoy "ক্\u200dক".toList = .ok "".toList := by apply bijoy_fast; decide +kernel
example : bijoy "ক্\u200dষ".toList = .ok "".toList := by apply bijoy_fast; decide +kernel
example : bijoy "র\u200d্য".toList = .ok "i¨".toList := by apply bijoy_fast; decide +kernel
example : bijoy "র\u200d্যা".toList = .ok "i¨v".toList := by apply bijoy_fast; decide +kernel
example : bijoy "র\u200d".toList = .ok "i".toList := by apply bijoy_fast; decide +kernel
example : bijoy "র\u200dক".toList = .ok "iK".toList := by apply bijoy_fast; decide +kernel
example : bijoy "্\u200c".toList = .ok "&".toList := by apply bijoy_fast; decide +kernel
example : bijoy "্\u200d্".toList = .ok "&".toList := by apply bijoy_fast; decide +kernel
example : bijoy "উদ্\u200cঘাটন".toList = .ok "D`&NvUb".toList := by apply bijoy_fast; decide +kernel
example : bijoy "ক্\u200cা".toList = .ok "K&v".toList := by apply bijoy_fast; decide +kernel
example : bijoy "ক্াক".toList = .ok "K&vK".toList := by apply bijoy_fast; decide +kernel
example : bijoy "ক্a".toList = .ok "".toList := by apply bijoy_fast; decide +kernel
example : bijoy "ক্aু".toList = .ok "z".toList := by apply bijoy_fast; decide +kernel
example : bijoy "ক্ ".toList = .ok "".toList := by apply bijoy_fast; decide +kernel
example : bijoy "ক্\u200c\u200c".toList = .ok "K&".toList := by apply bijoy_fast; decide +kernel
example : bijoy "ন্তু".toList = .ok "š‘".toList := by apply bijoy_fast; decide +kernel
example : bijoy "স্তু".toList = .ok "¯‘".toList := by apply bijoy_fast; decide +kernel
example : bijoy "ত্তু".toList = .ok "‘".toList := by apply bijoy_fast; decide +kernel
example : bijoy "ক্তু".toList = .ok "‘".toList := by apply bijoy_fast; decide +kernel
example : bijoy "ফ্তু".toList = .ok "‘".toList := by apply bijoy_fast; decide +kernel
example : bijoy "্তু".toList = .ok "‘".toList := by apply bijoy_fast; decide +kernel
example : bijoy "হূ".toList = .ok "n~".toList := by apply bijoy_fast; decide +kernel
example : bijoy "গূ".toList = .ok "M~".toList := by apply bijoy_fast; decide +kernel
example : bijoy "গ্গু".toList = .ok "y".toList := by apply bijoy_fast; decide +kernel
example : bijoy "ন্তূ".toList = .ok "š—‚".toList := by apply bijoy_fast; decide +kernel
example : bijoy "ন্তৃ".toList = .ok "š—…".toList := by apply bijoy_fast; decide +kernel
example : bijoy "জন্তু".toList = .ok "Rš‘".toList := by apply bijoy_fast; decide +kernel
example : bijoy "বস্তু".toList = .ok "e¯‘".toList := by apply bijoy_fast; decide +kernel
example : bijoy "তুতু".toList = .ok "ZzZz".toList := by apply bijoy_fast; decide +kernel
example : bijoy "০১২৩".toList = .ok "0123".toList := by apply bijoy_fast; decide +kernel
example : bijoy "৪৫৬৭৮৯".toList = .ok "456789".toList := by apply bijoy_fast; decide +kernel
example : bijoy "১২.৫০".toList = .ok "12.50".toList := by apply bijoy_fast; decide +kernel
example : bijoy "৳৫০০".toList = .ok "$500".toList := by apply bijoy_fast; decide +kernel
example : bijoy "।".toList = .ok "|".toList := by apply bijoy_fast; decide +kernel
example : bijoy "॥".toList = .ok "\\".toList := by apply bijoy_fast; decide +kernel
example : bijoy "।।".toList = .ok "||".toList := by apply bijoy_fast; decide +kernel
example : bijoy "ক।".toList = .ok "K|".toList := by apply bijoy_fast; decide +kernel
example : bijoy "ক্।".toList = .ok "K&|".toList := by apply bijoy_fast; decide +kernel
example : bijoy "ক্॥".toList = .ok "K&\\".toList := by apply bijoy_fast; decide +kernel
example : bijoy "“”‘’".toList = .ok "ÒÓÔÕ".toList := by apply bijoy_fast; decide +kernel
example : bijoy "“ক”".toList = .ok "ÒKÓ".toList := by apply bijoy_fast; decide +kernel
example : bijoy "ক্“".toList = .ok "".toList := by apply bijoy_fast; decide +kernel
example : bijoy "‘‘".toList = .ok "ÔÔ".toList := by apply bijoy_fast; decide +kernel
example : bijoy "‚„".toList = .ok "‚„".toList := by apply bijoy_fast; decide +kernel
example : bijoy "–—".toList = .ok "–—".toList := by apply bijoy_fast; decide +kernel
example : bijoy "".toList = .ok "".toList := by apply bijoy_fast; decide +kernel
example : bijoy "a".toList = .ok "a".toList := by apply bijoy_fast; decide +kernel
example : bijoy "abc XYZ 123".toList = .ok "abc XYZ 123".toList := by apply bijoy_fast; decide +kernel
example : bijoy "hello, world!".toList = .ok "hello, world!".toList := by apply bijoy_fast; decide +kernel
example : bijoy "a&b".toList = .ok "a&b".toList := by apply bijoy_fast; decide +kernel
example : bijoy "ক a".toList = .ok "K a".toList := by apply bijoy_fast; decide +kernel
example : bijoy "aক".toList = .ok "aK".toList := by apply bijoy_fast; decide +kernel
example : bijoy "é".toList = .ok "é".toList := by apply bijoy_fast; decide +kernel
example : bijoy "€".toList = .ok "€".toList := by apply bijoy_fast; decide +kernel
example : bijoy "😀".toList = .ok "😀".toList := by apply bijoy_fast; decide +kernel
example : bijoy "ক😀".toList = .ok "K😀".toList := by apply bijoy_fast; decide +kernel
example : bijoy "😀ক".toList = .ok "😀K".toList := by apply bijoy_fast; decide +kernel
example : bijoy "\u00a0".toList = .ok "\u00a0".toList := by apply bijoy_fast; decide +kernel
example : bijoy "Avwg".toList = .ok "Avwg".toList := by apply bijoy_fast; decide +kernel
example : bijoy "tab\there".toList = .ok "tab\there".toList := by apply bijoy_fast; decide +kernel
example : bijoy "line\nbreak".toList = .ok "line\nbreak".toList := by apply bijoy_fast; decide +kernel
example : bijoy "cr\rlf".toList = .ok "cr\rlf".toList := by apply bijoy_fast; decide +kernel
example : bijoy "ff\u000c".toList = .ok "ff\u000c".toList := by apply bijoy_fast; decide +kernel
example : bijoy "\\".toList = .ok "\\".toList := by apply bijoy_fast; decide +kernel
example : bijoy "\\n".toList = .ok "\\n".toList := by apply bijoy_fast; decide +kernel
example : bijoy "ক\\".toList = .ok "K\\".toList := by apply bijoy_fast; decide +kernel
example : bijoy "ঀ".toList = .ok "".toList := by apply bijoy_fast; decide +kernel
example : bijoy "়".toList = .ok "".toList := by apply bijoy_fast; decide +kernel
example : bijoy "ক়".toList = .ok "K".toList := by apply bijoy_fast; decide +kernel
example : bijoy "ঽ".toList = .ok "".toList := by apply bijoy_fast; decide +kernel
example : bijoy "ৠ".toList = .ok "".toList := by apply bijoy_fast; decide +kernel
example : bijoy "ৡ".toList = .ok "".toList := by apply bijoy_fast; decide +kernel
example : bijoy "ৢ".toList = .ok "".toList := by apply bijoy_fast; decide +kernel
example : bijoy "ৣ".toList = .ok "".toList := by apply bijoy_fast; decide +kernel
example : bijoy "ৰ".toList = .ok "".toList := by apply bijoy_fast; decide +kernel
example : bijoy "ৱ".toList = .ok "".toList := by apply bijoy_fast; decide +kernel
example : bijoy "৲".toList = .ok "".toList := by apply bijoy_fast; decide +kernel
example : bijoy "৴".toList = .ok "".toList := by apply bijoy_fast; decide +kernel
example : bijoy "৺".toList = .ok "".toList := by apply bijoy_fast; decide +kernel
example : bijoy "৻".toList = .ok "".toList := by apply bijoy_fast; decide +kernel
example : bijoy "ৼ".toList = .ok "".toList := by apply bijoy_fast; decide +kernel
example : bijoy "৽".toList = .ok "".toList := by apply bijoy_fast; decide +kernel
example : bijoy "৾".toList = .ok "".toList := by apply bijoy_fast; decide +kernel
example : bijoy "৿".toList = .ok "".toList := by apply bijoy_fast; decide +kernel
example : bijoy "঄".toList = .ok "".toList := by apply bijoy_fast; decide +kernel
example : bijoy "ঌ".toList = .ok "".toList := by apply bijoy_fast; decide +kernel
example : bijoy "ঌক".toList = .ok "K".toList := by apply bijoy_fast; decide +kernel
example : bijoy "঱".toList = .ok "".toList := by apply bijoy_fast; decide +kernel
example : bijoy "ৎৎ".toList = .ok "rr".toList := by apply bijoy_fast; decide +kernel
example : bijoy "কৢ".toList = .ok "K".toList := by apply bijoy_fast; decide +kernel
example : bijoy "কৗ".toList = .ok "K".toList := by apply bijoy_fast; decide +kernel
example : bijoy "ক্খ".toList = .ok "".toList := by apply bijoy_fast; decide +kernel
example : bijoy "খ্ক".toList = .ok "".toList := by apply bijoy_fast; decide +kernel
example : bijoy "ক্ক্ক".toList = .ok "".toList := by apply bijoy_fast; decide +kernel
example : bijoy "ঝ্ঝ".toList = .ok "".toList := by apply bijoy_fast; decide +kernel
example : bijoy "ফ্ত".toList = .ok "".toList := by apply bijoy_fast; decide +kernel
example : bijoy "ক্ষ্ম্য".toList = .ok "²¨".toList := by apply bijoy_fast; decide +kernel
example : bijoy "ক্ক্".toList = .ok "°&".toList := by apply bijoy_fast; decide +kernel
example : bijoy "র্ক্খ".toList = .ok "©".toList := by apply bijoy_fast; decide +kernel
example : bijoy "ক্খা".toList = .ok "v".toList := by apply bijoy_fast; decide +kernel
example : bijoy "ক্খি".toList = .ok "w".toList := by apply bijoy_fast; decide +kernel
example : bijoy "ক্খু".toList = .ok "y".toList := by apply bijoy_fast; decide +kernel
example : bijoy "ড়্গ".toList = .ok "ÿ".toList := by apply bijoy_fast; decide +kernel
example : bijoy "ড়্গু".toList = .ok "ÿy".toList := by apply bijoy_fast; decide +kernel
example : bijoy "ৄ".toList = .error .bijoy := by decide +kernel
example : bijoy "৅".toList = .error .bijoy := by decide +kernel
example : bijoy "৆".toList = .error .bijoy := by decide +kernel
example : bijoy "৉".toList = .error .bijoy := by decide +kernel
example : bijoy "৊".toList = .error .bijoy := by decide +kernel
example : bijoy "কৄ".toList = .error .bijoy := by decide +kernel
example : bijoy "ক্ৄ".toList = .error .bijoy := by decide +kernel
example : bijoy "a৅b".toList = .error .bijoy := by decide +kernel
example : bijoy "৆ক".toList = .error .bijoy := by decide +kernel
example : bijoy "ক্৉".toList = .error .bijoy := by decide +kernel
example : bijoy "হ৊".toList = .error .bijoy := by decide +kernel
example : bijoy "abcৄ".toList = .error .bijoy := by decide +kernel
example : bijoy " ৅".toList = .error .bijoy := by decide +kernel

/- 329 samples -/
end Riti.BijoySamples
