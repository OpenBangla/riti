/-
Props/C06Fixed — the fixed-layout half of C06 at full strength.  It holds of riti with the repair 389b777 (a key
whose value is dropped leaves no raw key text behind); without that, `Clean` is not an invariant.

* `Clean` ("nothing composed ⇒ no raw keys") is an invariant of EVERY call on EVERY context (`step_clean`,
  `run_clean`), so for every reachable context the session flag tells the truth:
  `flag_truth : not ongoing ⇒ Idle` (no composed text, no raw keys, no pending sign);
* a context whose flag says "not ongoing" answers every continuation exactly like a context newly created with its
  configuration over the same files (`not_ongoing_as_new`, through the simulation of C11).
-/
import RitiModel.Props.C06
import RitiModel.Props.C11
namespace Riti.C06F
open Riti Riti.C06 Riti.C11

/-- `Clean` lifted to contexts (the phonetic method has its own statement, Props/C06Phonetic) -/
def CleanCtx (c : Ctx) : Prop :=
  match c.m with
  | .fixed _ s => Clean s
  | .phonetic _ => True

/-- the state change of a key keeps `Clean`: either the value was dropped and the raw keys are cleared, or
    something is being composed -/
theorem keyState_clean (layout : Layout) (cfg : Cfg) (s s' : FState) (key modifier : Nat)
    (h : fKeyState layout cfg s key modifier = some s') : Clean s' := by
  rw [fKeyState_eq] at h
  obtain ⟨value, _, rfl⟩ := Option.map_eq_some_iff.mp h
  intro hr hp
  exact if_pos (by simp [show (processKeyValue cfg s value).rbuf = [] from hr,
    show (processKeyValue cfg s value).pending = none from hp])

theorem fCreateSuggestion_frame (w : World) (cfg : Cfg) (s : FState) :
    (fCreateSuggestion w cfg s).1.rbuf = s.rbuf ∧ (fCreateSuggestion w cfg s).1.rtyped = s.rtyped ∧
    (fCreateSuggestion w cfg s).1.pending = s.pending := by
  unfold fCreateSuggestion fDictSuggestion
  split <;> exact ⟨rfl, rfl, rfl⟩

theorem clean_of_frame {s t : FState} (h : Clean s) (e1 : t.rbuf = s.rbuf) (e2 : t.rtyped = s.rtyped)
    (e3 : t.pending = s.pending) : Clean t := by
  intro hr hp; rw [e2]; exact h (e1 ▸ hr) (e3 ▸ hp)

/-- a key press keeps `Clean` (whatever the state before: no hypothesis) -/
theorem fKey_clean (w : World) (layout : Layout) (cfg : Cfg) (s : FState) (key modifier : Nat) (hc : Clean s) :
    Clean (fKey w layout cfg s key modifier).1 :=
  fKey_ind (Q := fun r => Clean r.1) hc fun s' hk =>
    have := keyState_clean layout cfg s s' key modifier hk
    have ⟨e1, e2, e3⟩ := fCreateSuggestion_frame w cfg s'
    ⟨this, clean_of_frame this e1 e2 e3⟩

theorem fBackspace_clean (w : World) (cfg : Cfg) (s : FState) (ctrl : Bool) (hc : Clean s) :
    Clean (fBackspace w cfg s ctrl).1 :=
  have hb := backspace_clean s ctrl hc
  have ⟨e1, e2, e3⟩ := fCreateSuggestion_frame w cfg (fBackspaceState s ctrl).1
  fBackspace_ind (Q := fun r => Clean r.1) (clean_of_frame hb e1 e2 e3) hb

/-- a key whose value leaves nothing composed returns the EMPTY suggestion and an idle state (nothing is offered
    without a session: the clause the known finding `empty-composition-offers-raw-keys` violated before the repair) -/
theorem key_nothing_composed_is_idle (w : World) (layout : Layout) (cfg : Cfg) (s : FState) (key modifier : Nat) (hc : Clean s)
    (h : fOngoing (fKey w layout cfg s key modifier).1 = false) :
    Idle (fKey w layout cfg s key modifier).1 ∧
    ((fKey w layout cfg s key modifier).2 = Sugg.empty ∨ (fKey w layout cfg s key modifier).2 = fCurrentSuggestion cfg s) := by
  have hcl := fKey_clean w layout cfg s key modifier hc
  obtain ⟨hr, hp⟩ := (ongoing_iff _).mp h
  refine ⟨⟨hr, hcl hr hp, hp⟩, ?_⟩
  cases hk : fKeyState layout cfg s key modifier with
  | none => exact .inr (by simp [fKey, hk])
  | some s' =>
    simp only [fKey, hk] at hr hp ⊢
    by_cases hi : (s'.rbuf.isEmpty && s'.pending.isNone) = true
    · simp [hi]
    · exfalso
      simp only [hi, Bool.false_eq_true, if_false] at hr hp
      obtain ⟨e1, _, e3⟩ := fCreateSuggestion_frame w cfg s'
      rw [e1] at hr; rw [e3] at hp
      simp [hr, hp] at hi

theorem mNew_clean (w : World) (fs : FS) (cfg : Cfg) (p : String) (m : MState) (h : mNew w fs p = some m) :
    CleanCtx ⟨cfg, p, m⟩ := by
  obtain ⟨_, rfl⟩ | ⟨_, l, _, rfl⟩ := mNew_cases h
  · trivial
  · exact fresh_clean

theorem new_clean (w : World) (fs : FS) (cfg : Cfg) (p : String) (c : Ctx) (h : Ctx.new w fs cfg p = some c) : CleanCtx c := by
  obtain ⟨m, hm, rfl⟩ := ctxNew_eq_some.1 h
  exact mNew_clean w fs cfg p m hm

/-- every call keeps `Clean` -/
theorem step_clean (w : World) (c c' : Ctx) (fs fs' : FS) (e : Event) (o : Out) (hc : CleanCtx c)
    (hs : step w c fs e = .ok (c', fs', o)) : CleanCtx c' := by
  cases hm : c.m with
  | phonetic s =>
    cases step_phonetic hm hs with
    | switch cfg p m _ hn => exact mNew_clean w fs cfg p m hn
    | setFs _ => exact hc
    | _ => simp [CleanCtx]
  | fixed l s =>
    have hcl : Clean s := by simpa [CleanCtx, hm] using hc
    cases step_fixed hm hs with
    | key code m _ => simpa [CleanCtx] using fKey_clean w l c.cfg s code m hcl
    | backspace ctrl => simpa [CleanCtx] using fBackspace_clean w c.cfg s ctrl hcl
    | commit | finish => exact fun _ _ => rfl
    | update => simpa [CleanCtx] using hcl
    | switch cfg p m _ hn => exact mNew_clean w fs cfg p m hn
    | setFs _ => exact hc

/-- … and stays clean through every history -/
theorem run_clean (w : World) (evs : List Event) (c c' : Ctx) (fs fs' : FS) (os : List Out) (hc : CleanCtx c)
    (h : runFrom w c fs evs = .ok (c', fs', os)) : CleanCtx c' :=
  runFrom_invariant (P := fun c _ => CleanCtx c) (fun e _ c fs c₁ fs₁ o hc hs => step_clean w c c₁ fs fs₁ e o hc hs) hc h

/-- **the session flag tells the truth** (fixed method): in every context reached from a new one by any history,
    "not ongoing" means that nothing at all is left — no composed text, no raw key text, no pending sign -/
theorem flag_truth (w : World) (fs0 : FS) (cfg0 : Cfg) (p : String) (c0 : Ctx) (hnew : Ctx.new w fs0 cfg0 p = some c0)
    (evs : List Event) (c : Ctx) (fs : FS) (os : List Out) (hrun : runFrom w c0 fs0 evs = .ok (c, fs, os))
    (l : Layout) (s : FState) (hm : c.m = .fixed l s) (hflag : c.ongoing = false) : Idle s := by
  have hc : CleanCtx c := run_clean w evs c0 c fs0 fs os (new_clean w fs0 cfg0 p c0 hnew) hrun
  have hcl : Clean s := by simpa [CleanCtx, hm] using hc
  have : fOngoing s = false := by simpa [Ctx.ongoing, hm] using hflag
  obtain ⟨hr, hp⟩ := (ongoing_iff s).mp this
  exact ⟨hr, hcl hr hp, hp⟩

/-- well-formedness survives a history (C11.step_wf along a run) -/
theorem run_wf (w : World) (evs : List Event) (c c' : Ctx) (fs fs' : FS) (os : List Out) (hwf : WF w c)
    (h : runFrom w c fs evs = .ok (c', fs', os)) : WF w c' :=
  runFrom_invariant (P := fun c _ => WF w c) (fun e _ c fs c₁ fs₁ o hc hs => step_wf w c c₁ fs fs₁ e o hc hs) hwf h

/-- **ending a word erases every trace of it** (fixed method, full strength): take ANY history from a new context;
    if afterwards the context reports no ongoing session — after a commit, a finish, backspaces that emptied the
    composition, a ctrl-backspace, or a key whose value was dropped — then for EVERY continuation (in which
    `update_engine` is only called when idle) it returns exactly the outputs, leaves exactly the files and panics
    exactly where a context newly created with the same configuration over the same files does. -/
theorem not_ongoing_as_new (w : World) (fs0 : FS) (cfg0 : Cfg) (p : String) (c0 : Ctx) (hnew : Ctx.new w fs0 cfg0 p = some c0)
    (hist : List Event) (c : Ctx) (fs : FS) (os : List Out) (hrun : runFrom w c0 fs0 hist = .ok (c, fs, os))
    (l : Layout) (s : FState) (hm : c.m = .fixed l s) (hflag : c.ongoing = false) (cont : List Event) :
    ∃ cn, Ctx.new w fs c.cfg c.layoutPath = some cn ∧
      (UpdatesIdle w cn fs cont →
        (∀ cn' fs' outs, runFrom w cn fs cont = .ok (cn', fs', outs) → ∃ c', runFrom w c fs cont = .ok (c', fs', outs)) ∧
        (∀ q, runFrom w cn fs cont = .error q → runFrom w c fs cont = .error q)) := by
  have hidle := flag_truth w fs0 cfg0 p c0 hnew hist c fs os hrun l s hm hflag
  have hwf : WF w c := run_wf w hist c0 c fs0 fs os (new_wf w fs0 cfg0 p c0 hnew) hrun
  have hw : isPhoneticPath c.layoutPath = false ∧ w.layouts c.layoutPath = some l := by simpa [WF, hm] using hwf
  refine ⟨⟨c.cfg, c.layoutPath, .fixed l {}⟩, ctxNew_fixed w fs c.cfg hw.1 hw.2, idle_fixed_as_new w fs hm hidle cont⟩

/-- non-vacuity and the repaired case itself: Probhat's AltGr+d (ৄ, no independent form) at the start of a word with
    automatic vowel forming, suggestions and English on: the value is dropped, the EMPTY suggestion is returned and
    nothing — in particular not the raw key text "d" — is kept -/
def exLayout : Layout := fun n => if n == "Key_d_AltGr" then some [Char.ofNat 0x09C4] else none
def exCfg : Cfg := { fixedSuggestion := true, includeEnglish := true, fixedVowel := true }
def exEnv : Env :=
  { convert := id, dictPhonetic := fun _ => some [], suffix := fun _ => none, autocorrect := fun _ => none
    emoticon := fun _ => none, emojiByName := fun _ => none, emojiBengali := fun _ => none
    bijoy := fun s => .ok s, fixedTable := fun _ => [] }
example : (fKey ⟨exEnv, fun _ => none, sortStable⟩ exLayout exCfg {} 41113 2).2 = Sugg.empty ∧
          Idle (fKey ⟨exEnv, fun _ => none, sortStable⟩ exLayout exCfg {} 41113 2).1 := by
  refine ⟨by decide, by decide, by decide, by decide⟩

end Riti.C06F
