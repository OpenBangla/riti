/-
Lemmas/Rank — the comparator (`impl Ord for Rank`): the laws that hold for all ranks and its description in one
line (`Rank.le_iff`); `pushChecked`, once and in a loop (only appends, keeps texts distinct); the insertion loop
of the sort in normal form (`insertSortedFront_append`, `exists_lt_run`: what one insertion does to order and to
classes is read off it); the sort is a permutation.
-/
import RitiModel.Model.Rank
namespace Riti
open Gen

@[simp] theorem Rank.text_setText (r : Rank) (t : List Char) : (r.setText t).text = t := by
  cases r <;> rfl

@[simp] theorem Rank.variant_setText (r : Rank) (t : List Char) : (r.setText t).variant = r.variant := by
  cases r <;> rfl

@[simp] theorem Rank.num_setText (r : Rank) (t : List Char) : (r.setText t).num = r.num := by
  cases r <;> rfl

theorem Rank.setText_text (r : Rank) : r.setText r.text = r := by cases r <;> rfl

/-- the `as u8` of `Rank::new_suggestion` truncates nothing while ten times the distance fits a byte -/
theorem num_newSuggestion (s b : List Char) (h : editDistance b s * 10 < 256) :
    (Rank.newSuggestion s b).num = 10 * editDistance b s := by
  simp only [Rank.newSuggestion, Rank.num, rankFactor, rankModulus]
  omega

/-! ### `natCmp` (`u8::cmp`) is the `compare` of `Nat` written out -/

@[simp] theorem natCmp_eq_lt (a b : Nat) : natCmp a b = .lt ↔ a < b := Nat.compare_eq_lt

@[simp] theorem natCmp_eq_eq (a b : Nat) : natCmp a b = .eq ↔ a = b := Nat.compare_eq_eq

@[simp] theorem natCmp_eq_gt (a b : Nat) : natCmp a b = .gt ↔ b < a := Nat.compare_eq_gt

/-! ### the comparator: the laws that hold for all ranks -/

theorem cmp_lt_iff_gt (a b : Rank) : a.cmp b = .lt ↔ b.cmp a = .gt := by
  cases a <;> cases b <;> simp [Rank.cmp, Rank.variant, Rank.num, cmpArm]

theorem cmp_eq_symm (a b : Rank) : a.cmp b = .eq ↔ b.cmp a = .eq := by
  cases a <;> cases b <;> simp [Rank.cmp, Rank.variant, Rank.num, cmpArm] <;> omega

theorem cmp_refl (a : Rank) : a.cmp a = .eq := by
  cases a <;> simp [Rank.cmp, Rank.variant, Rank.num, cmpArm]

theorem cmp_eq_of_emoji {a b : Rank} (ha : a.variant = .emoji) (hb : b.variant = .emoji) : a.cmp b = .eq := by
  rw [Rank.cmp, ha, hb]; rfl

theorem Rank.le_iff_ne_gt (a b : Rank) : a.le b = true ↔ a.cmp b ≠ .gt := by
  simp [Rank.le]

theorem cmp_eq_of_not_gt_both {a b : Rank} (h1 : a.cmp b ≠ .gt) (h2 : b.cmp a ≠ .gt) : a.cmp b = .eq := by
  cases h : a.cmp b
  · exact absurd ((cmp_lt_iff_gt a b).mp h) h2
  · rfl
  · exact absurd h h1

theorem cmp_ne_lt_iff_ne_gt (a b : Rank) : a.cmp b ≠ .lt ↔ b.cmp a ≠ .gt :=
  not_congr (cmp_lt_iff_gt a b)

theorem le_of_not_lt {a b : Rank} (h : b.cmp a ≠ .lt) : a.le b = true :=
  (Rank.le_iff_ne_gt a b).mpr ((cmp_ne_lt_iff_ne_gt b a).mp h)

/-! ### the comparator in one line (`Rank.le_iff`); what it says between items of given classes -/

/-- class of an item: `First` < `Emoji`/`Other` < `Last` -/
def Rank.classKey : Rank → Nat
  | .first _ => 0 | .emoji _ _ => 1 | .other _ _ => 1 | .last _ _ => 2

theorem Rank.classKey_emoji {a : Rank} (h : a.variant = .emoji) : a.classKey = 1 := by
  cases a <;> first | rfl | cases h

/-- order by class, then by number: a total preorder that refines `Rank.le` -/
def keyLe (a b : Rank) : Prop := a.classKey < b.classKey ∨ (a.classKey = b.classKey ∧ a.num ≤ b.num)

instance (a b : Rank) : Decidable (keyLe a b) := by unfold keyLe; exact inferInstance

theorem keyLe_refl (a : Rank) : keyLe a a := Or.inr ⟨rfl, Nat.le_refl _⟩
theorem keyLe_total (a b : Rank) : keyLe a b ∨ keyLe b a := by unfold keyLe; omega
theorem keyLe_trans {a b c : Rank} (h1 : keyLe a b) (h2 : keyLe b c) : keyLe a c := by
  unfold keyLe at *; omega

/-- **the comparator in one line**: `a ≤ b` iff `a` is at or below `b` in (class, number), or both are emoji — which
    compare `Equal` whatever their numbers, the one place where `≤` fails to be transitive -/
theorem Rank.le_iff (a b : Rank) : a.le b = true ↔ keyLe a b ∨ (a.variant = .emoji ∧ b.variant = .emoji) := by
  cases a <;> cases b <;> simp [Rank.le, Rank.cmp, cmpArm, Rank.variant, Rank.num, keyLe, Rank.classKey]

theorem le_of_keyLe {a b : Rank} (h : keyLe a b) : a.le b = true := (Rank.le_iff a b).mpr (Or.inl h)

theorem keyLe_of_lt {a b : Rank} (h : a.cmp b = .lt) : keyLe a b :=
  (keyLe_total a b).resolve_right fun hba => by
    have := le_of_keyLe hba
    rw [Rank.le, (cmp_lt_iff_gt a b).mp h] at this
    cases this

theorem cmp_ne_gt_iff_keyLe {a b : Rank} (h : a.variant ≠ .emoji ∨ b.variant ≠ .emoji) :
    a.cmp b ≠ .gt ↔ keyLe a b := by
  rw [← Rank.le_iff_ne_gt, Rank.le_iff]
  exact or_iff_left fun hb => h.elim (· hb.1) (· hb.2)

theorem le_first_false {a b : Rank} (hb : b.variant = .first) (ha : a.variant ≠ .first) : a.le b = false := by
  cases a <;> cases b <;> simp_all [Rank.le, Rank.cmp, cmpArm, Rank.variant]

theorem num_le_of_le {a b : Rank} (ha : a.variant = .first ∨ a.variant = .other)
    (hb : b.variant = .first ∨ b.variant = .other) (h : a.le b = true) : a.num ≤ b.num := by
  cases a <;> cases b <;> simp_all [Rank.le, Rank.cmp, cmpArm, Rank.variant, Rank.num]

/-! ### `push_checked` -/

theorem pushChecked_prefix (v : List Rank) (r : Rank) : v <+: pushChecked v r := by
  unfold pushChecked; split
  · exact List.prefix_refl _
  · exact List.prefix_append _ _

theorem mem_pushChecked_of_mem {v : List Rank} {r x : Rank} (h : x ∈ v) : x ∈ pushChecked v r :=
  (pushChecked_prefix v r).subset h

theorem mem_pushChecked {v : List Rank} {r x : Rank} (h : x ∈ pushChecked v r) : x ∈ v ∨ x = r := by
  unfold pushChecked at h; split at h
  · exact Or.inl h
  · simpa using h

theorem exists_text_pushChecked (v : List Rank) (r : Rank) : ∃ x ∈ pushChecked v r, x.text = r.text := by
  unfold pushChecked
  split
  · next h => simpa [Rank.sameText] using h
  · exact ⟨r, by simp, rfl⟩

theorem text_mem_of_any {v : List Rank} {r : Rank} :
    v.any (fun x => x.sameText r) = true ↔ r.text ∈ v.map Rank.text := by
  simp [List.any_eq_true, Rank.sameText]

theorem nodup_text_concat {v : List Rank} {r : Rank} (h : (v.map Rank.text).Nodup) (hr : r.text ∉ v.map Rank.text) :
    ((v ++ [r]).map Rank.text).Nodup := by
  rw [List.map_append, List.nodup_append]
  exact ⟨h, by simp, fun a ha b hb => by rw [List.mem_singleton.mp hb]; exact fun e => hr (e ▸ ha)⟩

theorem nodup_pushChecked {v : List Rank} (r : Rank) (h : (v.map Rank.text).Nodup) :
    ((pushChecked v r).map Rank.text).Nodup := by
  unfold pushChecked
  split
  · exact h
  · next hn => exact nodup_text_concat h fun hm => hn (text_mem_of_any.mpr hm)

/-- without `hv` an item of `v` that carries the pushed text and fails `p` would stop the push on the left only -/
theorem filter_pushChecked {p : Rank → Bool} {v : List Rank} {r : Rank} (hr : p r = true)
    (hv : ∀ x ∈ v, x.text = r.text → p x = true) :
    (pushChecked v r).filter p = pushChecked (v.filter p) r := by
  have : r.text ∈ (v.filter p).map Rank.text ↔ r.text ∈ v.map Rank.text := by
    simp only [List.mem_map, List.mem_filter]
    exact ⟨fun ⟨x, hx, h⟩ => ⟨x, hx.1, h⟩, fun ⟨x, hx, h⟩ => ⟨x, ⟨hx, hv x hx h⟩, h⟩⟩
  unfold pushChecked
  simp only [text_mem_of_any, this]
  split <;> simp [List.filter_append, hr]

/-! ### `push_checked` in a loop -/

theorem foldl_pushChecked_prefix (l v : List Rank) : v <+: l.foldl pushChecked v := by
  induction l generalizing v with
  | nil => exact List.prefix_refl _
  | cons x xs ih => exact (pushChecked_prefix v x).trans (ih _)

theorem nodup_foldl_pushChecked (l v : List Rank) (h : (v.map Rank.text).Nodup) :
    ((l.foldl pushChecked v).map Rank.text).Nodup := by
  induction l generalizing v with
  | nil => exact h
  | cons x xs ih => exact ih _ (nodup_pushChecked x h)

theorem mem_foldl_pushChecked {l v : List Rank} {x : Rank} (h : x ∈ l.foldl pushChecked v) : x ∈ v ∨ x ∈ l := by
  induction l generalizing v with
  | nil => exact Or.inl h
  | cons y ys ih =>
    rcases ih h with h1 | h1
    · exact (mem_pushChecked h1).imp_right (fun e : x = y => e ▸ List.mem_cons_self)
    · exact Or.inr (List.mem_cons_of_mem _ h1)

theorem exists_text_foldl_pushChecked {l : List Rank} (v : List Rank) {x : Rank} (h : x ∈ l) :
    ∃ y ∈ l.foldl pushChecked v, y.text = x.text := by
  induction l generalizing v with
  | nil => cases h
  | cons a as ih =>
    rcases List.mem_cons.mp h with rfl | hx
    · obtain ⟨y, hy, hyt⟩ := exists_text_pushChecked v x
      exact ⟨y, (foldl_pushChecked_prefix as _).subset hy, hyt⟩
    · exact ih _ hx

/-! ### the sort: one insertion in normal form; the sort is a permutation -/

theorem insertSortedFront_append (x : Rank) (A B : List Rank) (hA : ∀ y ∈ A, y.cmp x = .lt)
    (hB : ∀ b, B.head? = some b → b.cmp x ≠ .lt) :
    sortStable.insertSortedFront x (A ++ B) = A ++ x :: B := by
  induction A with
  | nil =>
    cases B with
    | nil => rfl
    | cons b B' => simp [sortStable.insertSortedFront, hB b rfl]
  | cons y ys ih =>
    simp only [List.cons_append, sortStable.insertSortedFront, hA y (by simp), beq_self_eq_true, if_true]
    rw [ih (fun z hz => hA z (List.mem_cons_of_mem _ hz))]

theorem exists_lt_run (x : Rank) (S : List Rank) :
    ∃ A B, S = A ++ B ∧ (∀ y ∈ A, y.cmp x = .lt) ∧ ∀ b, B.head? = some b → b.cmp x ≠ .lt := by
  induction S with
  | nil => exact ⟨[], [], rfl, by simp, by simp⟩
  | cons y ys ih =>
    by_cases h : y.cmp x = .lt
    · obtain ⟨A, B, rfl, hA, hB⟩ := ih
      exact ⟨y :: A, B, rfl, by simpa [h] using hA, hB⟩
    · exact ⟨[], y :: ys, rfl, by simp, by simpa using h⟩

theorem insertSortedFront_perm (x : Rank) (l : List Rank) : (sortStable.insertSortedFront x l).Perm (x :: l) := by
  obtain ⟨A, B, rfl, hA, hB⟩ := exists_lt_run x l
  rw [insertSortedFront_append x A B hA hB]
  exact List.perm_middle

theorem sortStable_perm (l : List Rank) : (sortStable l).Perm l := by
  induction l with
  | nil => simp [sortStable]
  | cons x xs ih =>
    simp only [sortStable]
    exact (insertSortedFront_perm x _).trans (List.Perm.cons x ih)

theorem mem_sortStable {l : List Rank} {x : Rank} : x ∈ sortStable l ↔ x ∈ l := (sortStable_perm l).mem_iff

theorem length_sortStable (l : List Rank) : (sortStable l).length = l.length := (sortStable_perm l).length_eq

end Riti
