/-
Lemmas/Quotes — smart quotes (C17): un-curling (`uncurl` undoes `openQuote`/`closeQuote` on a text without curly
quotes); candidates tagged as *core* (wrapped in the punctuation) or *raw* (shown as they are) and rendered for a
given punctuation (`Item.render`): un-curled, an item reads the same in curled and in straight punctuation; the fixed
method's list before the sort is the rendering of ONE list of tagged items, whatever the punctuation
(`fixed_cands_items`; for the phonetic method the same is `addExtras_eq` of Lemmas/Candidates); the okkhor
transliterator never produces a curly quote.
-/
import RitiModel.Lemmas.Candidates
import RitiModel.Lemmas.Provenance
namespace Riti
open Gen

/-! ### curly ↔ straight quotes -/

/-- map a curly quote back to the straight one -/
def uncurlChar (c : Char) : Char :=
  if c = '‘' ∨ c = '’' then '\'' else if c = '“' ∨ c = '”' then '"' else c

/-- map every curly quote of a text back to the straight one -/
def uncurl (s : Str) : Str := s.map uncurlChar

/-- the text contains none of the four curly quotes -/
def NoCurly (s : Str) : Prop := ∀ c ∈ s, c ∉ ['‘', '’', '“', '”']

instance (s : Str) : Decidable (NoCurly s) := by unfold NoCurly; infer_instance

theorem uncurlChar_of_not_curly {c : Char} (h : c ∉ ['‘', '’', '“', '”']) : uncurlChar c = c := by
  simp only [List.mem_cons, List.not_mem_nil, or_false, not_or] at h
  obtain ⟨h1, h2, h3, h4⟩ := h
  simp [uncurlChar, h1, h2, h3, h4]

theorem map_eq_self {f : Char → Char} {s : Str} (h : ∀ c ∈ s, f c = c) : s.map f = s :=
  (List.map_congr_left h).trans (List.map_id s)

theorem uncurl_of_noCurly {s : Str} (h : NoCurly s) : uncurl s = s :=
  map_eq_self fun c hc => uncurlChar_of_not_curly (h c hc)

theorem uncurl_map_curl {a b : Char} (ha : uncurlChar a = '\'') (hb : uncurlChar b = '"') {s : Str} (h : NoCurly s) :
    uncurl (s.map fun c => if c == '\'' then a else if c == '"' then b else c) = s := by
  rw [uncurl, List.map_map]
  refine map_eq_self fun c hc => ?_
  rw [Function.comp_apply]
  split
  · next e => rw [eq_of_beq e, ha]
  · split
    · next e => rw [eq_of_beq e, hb]
    · exact uncurlChar_of_not_curly (h c hc)

theorem uncurl_map_openQuote {s : Str} (h : NoCurly s) : uncurl (s.map openQuote) = s :=
  uncurl_map_curl (by decide +kernel) (by decide +kernel) h

theorem uncurl_map_closeQuote {s : Str} (h : NoCurly s) : uncurl (s.map closeQuote) = s :=
  uncurl_map_curl (by decide +kernel) (by decide +kernel) h

@[simp] theorem uncurl_append (a b : Str) : uncurl (a ++ b) = uncurl a ++ uncurl b := by
  simp [uncurl]

theorem uncurlChar_idem (c : Char) : uncurlChar (uncurlChar c) = uncurlChar c :=
  ite_ind (Q := fun x => uncurlChar x = x) (fun _ => by decide +kernel) fun h1 =>
    ite_ind (Q := fun x => uncurlChar x = x) (fun _ => by decide +kernel) fun h2 => by
      rw [uncurlChar, if_neg h1, if_neg h2]

/-! ### core and raw items -/

/-- a candidate before rendering: `core` items are wrapped in the leading / trailing punctuation,
    `raw` items (typed text, emoticon emoji) are shown as they are -/
inductive Item where
  | core (r : Rank)
  | raw (r : Rank)
  deriving DecidableEq, Repr

/-- the candidate as shown when the punctuation around the word is `p … t` -/
def Item.render (p t : Str) : Item → Rank
  | .core r => wrapR p t r
  | .raw r => r

theorem Item.skel_render {p t p' t' : Str} (i : Item) : skel (i.render p t) = skel (i.render p' t') := by
  cases i <;> simp [Item.render, skel]

/-- un-curled, a core item reads the same in curled and in straight punctuation -/
theorem uncurl_wrapR_curled {p t : Str} (hp : NoCurly p) (ht : NoCurly t) (c : Rank) :
    uncurl (wrapR (p.map openQuote) (t.map closeQuote) c).text = uncurl (wrapR p t c).text := by
  simp [uncurl_map_openQuote hp, uncurl_map_closeQuote ht, uncurl_of_noCurly hp, uncurl_of_noCurly ht]

theorem Item.uncurl_render {p t : Str} (hp : NoCurly p) (ht : NoCurly t) (i : Item) :
    uncurl (i.render (p.map openQuote) (t.map closeQuote)).text = uncurl (i.render p t).text := by
  cases i with
  | core c => exact uncurl_wrapR_curled hp ht c
  | raw r => rfl

/-! ### the fixed-method candidate list as core ++ raw -/

/-- the fixed method's candidates (before the sort) for the word `w` and the raw keys `typed` are, whatever the
    punctuation `p … t`, the rendering of ONE list of tagged items: the typed word, the dictionary hits and the emoji
    found by name are core items, the emoticon's emoji is the only raw one -/
theorem fixed_cands_items (env : Env) (cfg : Cfg) (w typed : Str) :
    ∃ its : List Item,
      (∀ r, Item.raw r ∈ its → ∃ e, env.emoticon typed = some e ∧ r = Rank.emoji e Gen.emojiDefaultRank) ∧
      ∀ p t, fixedBase env cfg ⟨p, w, t⟩ ++ fixedEmoji env cfg ⟨p, w, t⟩ typed = its.map (Item.render p t) := by
  obtain ⟨ie, hraw, hie⟩ : ∃ ie : List Item,
      (∀ r, Item.raw r ∈ ie → ∃ e, env.emoticon typed = some e ∧ r = Rank.emoji e Gen.emojiDefaultRank) ∧
      ∀ p t, fixedEmoji env cfg ⟨p, w, t⟩ typed = ie.map (Item.render p t) := by
    unfold fixedEmoji
    by_cases hansi : cfg.ansi = true
    · exact ⟨[], by simp, fun _ _ => by simp [hansi]⟩
    · simp only [hansi]
      cases env.emoticon typed with
      | some e => exact ⟨[.raw (.emoji e Gen.emojiDefaultRank)], by simp, fun _ _ => rfl⟩
      | none =>
        cases env.emojiBengali (w.filter (fun c => c != cZWNJ)) with
        | none => exact ⟨[], by simp, fun _ _ => rfl⟩
        | some es =>
          exact ⟨(es.zipIdx 1).map (fun (x, r) => Item.core (Rank.emoji x r)), by simp,
            fun _ _ => by simp [Item.render, wrapR, wrapText, Rank.setText, Rank.text, Function.comp_def]⟩
  refine ⟨(dedupAdjacent (Rank.first w :: fixedHits env cfg w)).map Item.core ++ ie, fun r hr => ?_, fun p t => ?_⟩
  · exact hraw r ((List.mem_append.mp hr).resolve_left (by simp))
  · rw [List.map_append, ← hie, fixedBase, wrapAll_eq, List.map_map]
    rfl

/-! ### the okkhor transliterator never produces a curly quote -/

/-- nothing the engine adds by itself is a curly quote: the replacement texts of the generated Avro pattern table
    (kernel sweep), case folding, the joining letters -/
theorem Real.charOk_noCurly : Real.CharOk (fun c => c ∉ ['‘', '’', '“', '”']) :=
  .of_sweep _ (by decide +kernel)
    (fun c _ h hm => Nat.not_le_of_gt ((by decide : ∀ q ∈ ['‘', '’', '“', '”'], 122 < q.toNat) c hm) h) (by decide)

/-- the Avro transliteration of a text without curly quotes (e.g. anything typed on the keyboard)
    contains no curly quote -/
theorem okConvert_noCurly {raw : Str} (h : NoCurly raw) : NoCurly (okConvert raw) :=
  Real.okConvert_allC Real.charOk_noCurly h

end Riti
