/-
Lemmas/Phonetic — the pieces below `PhoneticSuggestion::suggest`, each characterised so that proofs need not unfold it:
the memo after a look-up (`memoFill`: what was there stays, the one entry that can be new is `computeEntry` of the word),
the items of a computed entry (`mem_computeEntry`), and when the suffix-joining rule applies (`joinChecked`).
-/
import RitiModel.Model.Phonetic
import RitiModel.Lemmas.Store
namespace Riti

/-! ### the memo after a look-up -/

theorem alookup_memoFill (env : Env) (ua : Store) (cache : Memo) (w k : Str) :
    alookup (memoFill env ua cache w) k =
      (alookup cache k).or (if k == w then some (computeEntry env ua w) else none) := by
  unfold memoFill
  by_cases hk : k = w
  · subst hk
    cases h : alookup cache k with
    | some v => rw [h]; rfl
    | none => rw [AList.alookup_ainsert_self]; simp
  · rw [if_neg (by simpa using hk), Option.or_none]
    cases h : alookup cache w with
    | some v => rfl
    | none => exact AList.alookup_ainsert_ne _ _ _ _ hk

theorem memoFill_forall {Q : Str → List Rank → Prop} {env : Env} {ua : Store} {cache : Memo} {w : Str}
    (hc : ∀ k e, alookup cache k = some e → Q k e) (hw : Q w (computeEntry env ua w)) :
    ∀ k e, alookup (memoFill env ua cache w) k = some e → Q k e := by
  unfold memoFill
  split
  · exact hc
  · intro k e he
    rw [AList.alookup_ainsert] at he
    split at he
    · next hk => cases he; exact eq_of_beq hk ▸ hw
    · exact hc k e he

theorem memoFill_isSome (env : Env) (ua : Store) (cache : Memo) (w : Str) :
    (alookup (memoFill env ua cache w) w).isSome = true := by
  rw [alookup_memoFill, if_pos BEq.rfl, Option.isSome_or, Option.isSome_some, Bool.or_true]

theorem memoFill_of_isSome (env : Env) (ua : Store) (cache : Memo) (w : Str) (h : (alookup cache w).isSome = true) :
    memoFill env ua cache w = cache := by
  unfold memoFill
  cases h' : alookup cache w with
  | some e => rfl
  | none => rw [h'] at h; cases h

theorem memoFill_idem (env : Env) (ua ua' : Store) (cache : Memo) (w : Str) :
    memoFill env ua' (memoFill env ua cache w) w = memoFill env ua cache w :=
  memoFill_of_isSome env ua' _ w (memoFill_isSome env ua cache w)

/-! ### what a computed entry holds -/

theorem searchCorrected_eq_some {env : Env} {ua : Store} {w c : Str} :
    searchCorrected env ua w = some c ↔ alookup ua w = some c ∨ (alookup ua w = none ∧ env.autocorrect w = some c) := by
  unfold searchCorrected
  cases alookup ua w <;> simp

theorem mem_computeEntry {env : Env} {ua : Store} {w : Str} {r : Rank} :
    r ∈ computeEntry env ua w ↔
      (∃ c, searchCorrected env ua w = some c ∧ r = .first (env.convert c)) ∨
      (∃ l, env.dictPhonetic w = some l ∧ ∃ s ∈ l, r = .newSuggestion s (env.convert w)) := by
  unfold computeEntry
  rw [List.mem_append]
  apply or_congr
  · cases searchCorrected env ua w <;> simp
  · cases env.dictPhonetic w <;> simp [eq_comm]

/-! ### the suffix-joining rule -/

theorem joinChecked_eq_none_iff (b s : Str) : joinChecked b s = none ↔ b = [] ∨ s = [] := by
  rw [← List.getLast?_eq_none_iff, ← List.head?_eq_none_iff, joinChecked]
  cases b.getLast? <;> cases s.head? <;> simp

theorem joinChecked_nil_left (s : Str) : joinChecked [] s = none := (joinChecked_eq_none_iff _ _).2 (.inl rfl)

theorem joinChecked_nil_right (b : Str) : joinChecked b [] = none := (joinChecked_eq_none_iff _ _).2 (.inr rfl)

theorem joinChecked_eq_some {b s j : Str} (h : joinChecked b s = some j) :
    ∃ rmc lmc, b.getLast? = some rmc ∧ s.head? = some lmc ∧ j = joinSuffix b s rmc lmc := by
  unfold joinChecked at h
  split at h
  · next rmc lmc hb hs => exact ⟨rmc, lmc, hb, hs, (Option.some.inj h).symm⟩
  · cases h

end Riti
