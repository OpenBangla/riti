/-
Props/C08 — dictionary-derived candidates are justified, and suffix forms are complete.
The dictionary matcher (`env.dictPhonetic`: okkhor regex + regex crate + tables) is a parameter:
the theorems hold for any matcher; that the real matcher selects exactly the words matching the
Avro pattern is decided by the correspondence tie, not by a theorem.
-/
import RitiModel.Model.Context
import RitiModel.Lemmas.Rank
import RitiModel.Lemmas.Phonetic
import RitiModel.Lemmas.Candidates
namespace Riti.C08
open Riti

/-- the three joining rules are disjoint: ৎ and ং are not vowels -/
theorem rules_disjoint : isVowel cKhandaTa = false ∧ isVowel cAnushar = false ∧ (cKhandaTa == cAnushar) = false := by decide +kernel

/-- **joining rule**: য় between a final vowel (sign) and an initial vowel sign; a final ৎ becomes ত;
    a final ং becomes ঙ; otherwise plain concatenation — in that priority, which is immaterial
    because the rules are disjoint (`rules_disjoint`) -/
theorem join_spec (b s j : Str) (h : joinChecked b s = some j) :
    ∃ rmc lmc, b.getLast? = some rmc ∧ s.head? = some lmc ∧
      ((isVowel rmc = true ∧ isKar lmc = true → j = b ++ [cY] ++ s) ∧
       (rmc = cKhandaTa → j = b.dropLast ++ [cT] ++ s) ∧
       (rmc = cAnushar → j = b.dropLast ++ [cNga] ++ s) ∧
       (¬(isVowel rmc = true ∧ isKar lmc = true) → rmc ≠ cKhandaTa → rmc ≠ cAnushar → j = b ++ s)) := by
  obtain ⟨rmc, lmc, hb, hs, rfl⟩ := joinChecked_eq_some h
  refine ⟨rmc, lmc, hb, hs, ?_, ?_, ?_, ?_⟩
  · intro hv; simp [joinSuffix, hv.1, hv.2]
  · rintro rfl; simp [joinSuffix, rules_disjoint.1]
  · rintro rfl; simp [joinSuffix, rules_disjoint.2.1, show (cAnushar == cKhandaTa) = false by decide]
  · intro hv hk ha; simp only [joinSuffix, Bool.and_eq_true, hv, hk, ha, if_false, beq_iff_eq]

/-- joining fails only when the base or the suffix is empty -/
theorem join_none_iff (b s : Str) : joinChecked b s = none ↔ (b = [] ∨ s = []) :=
  joinChecked_eq_none_iff b s

/-- **the loop visits exactly the decompositions `k ++ r` with both parts non-empty** -/
theorem split_points_exact (w k r : Str) :
    (k, r) ∈ splitPoints w ↔ (k ≠ [] ∧ r ≠ [] ∧ k ++ r = w) := by
  simp only [splitPoints, List.mem_map, List.mem_range, Prod.mk.injEq]
  constructor
  · rintro ⟨i, hi, rfl, rfl⟩
    refine ⟨?_, ?_, List.take_append_drop _ _⟩
    · rw [Ne, ← List.length_eq_zero_iff, List.length_take]; omega
    · rw [Ne, ← List.length_eq_zero_iff, List.length_drop]; omega
  · rintro ⟨hk, hr, rfl⟩
    have := List.length_pos_iff.mpr hk
    have := List.length_pos_iff.mpr hr
    exact ⟨k.length - 1, by simp; omega, by simp [show k.length - 1 + 1 = k.length by omega]⟩

/-- **completeness**: the typed word is longer than two characters and is `k ++ r` with `r` a known
    suffix; then every candidate `b` in the memo entry of the base `k` is offered in joined form,
    wrapped in the same punctuation.  (That the memo entry of every base that was itself typed is
    present and equals its direct candidates is C05's memo transparency.) -/
theorem c08_complete (env : Env) (cfg : Cfg) (cache : Memo) (term : Str) (k r sfx j : Str) (entry : List Rank) (b : Rank)
    (hlen : (preparedParts env cfg term).word.length > 2)
    (hsplit : k ≠ [] ∧ r ≠ [] ∧ k ++ r = (preparedParts env cfg term).word)
    (hs : env.suffix r = some sfx) (hc : alookup cache k = some entry) (hb : b ∈ entry)
    (hj : joinChecked b.text sfx = some j) :
    wrapText (preparedParts env cfg term).pre (preparedParts env cfg term).trail j ∈
      (suggestList env cfg cache term).map Rank.text := by
  simpa [suggestList] using (BaseSrc.joined hlen ((split_points_exact _ k r).mpr hsplit) hs hc hb hj).text_mem_suggestList

/-- direct candidates (the memo entry of the word itself) are offered too -/
theorem c08_direct_offered (env : Env) (cfg : Cfg) (cache : Memo) (term : Str) (entry : List Rank) (b : Rank)
    (hc : alookup cache (preparedParts env cfg term).word = some entry) (hb : b ∈ entry) :
    wrapText (preparedParts env cfg term).pre (preparedParts env cfg term).trail b.text ∈
      (suggestList env cfg cache term).map Rank.text :=
  (BaseSrc.memo hc hb).text_mem_suggestList

/-- **soundness**: every item of the dictionary stage is (a) a member of the memo entry of the
    word, (b) the transliteration, or (c) a member `b` of the memo entry of a proper prefix `k`
    joined to the Bengali form of the known suffix `r` with `k ++ r = word` -/
theorem c08_sound (env : Env) (cache : Memo) (parts : Parts) (x : Rank) (hx : x ∈ dictList env cache parts) :
    ∃ t, x.text = (if !parts.pre.isEmpty || !parts.trail.isEmpty then wrapText parts.pre parts.trail t else t) ∧
      ((∃ entry b, alookup cache parts.word = some entry ∧ b ∈ entry ∧ b.text = t) ∨
       t = env.convert parts.word ∨
       (∃ k r sfx entry b, k ≠ [] ∧ r ≠ [] ∧ k ++ r = parts.word ∧ env.suffix r = some sfx ∧
          alookup cache k = some entry ∧ b ∈ entry ∧ joinChecked b.text sfx = some t)) := by
  rw [dictList_eq] at hx
  obtain ⟨y, hy, rfl⟩ := List.mem_map.mp hx
  refine ⟨y.text, ?_, ?_⟩
  · rw [wrapR_text]
    cases parts.pre <;> cases parts.trail <;> simp [wrapText]
  · cases mem_baseItems hy with
    | memo he hb => exact Or.inl ⟨_, _, he, hb, rfl⟩
    | translit => exact Or.inr (Or.inl rfl)
    | joined _ hks hs he hb hj =>
      obtain ⟨h1, h2, h3⟩ := (split_points_exact _ _ _).mp hks
      exact Or.inr (Or.inr ⟨_, _, _, _, _, h1, h2, h3, hs, he, hb, by simpa using hj⟩)

/-- non-vacuity: a concrete join of each kind -/
example : joinChecked "মা".toList "ের".toList = some ("মা".toList ++ [cY] ++ "ের".toList) ∧
          joinChecked "সৎ".toList "ের".toList = some ("স".toList ++ [cT] ++ "ের".toList) ∧
          joinChecked "রং".toList "ের".toList = some ("র".toList ++ [cNga] ++ "ের".toList) ∧
          joinChecked "কাজ".toList "ের".toList = some "কাজের".toList := by decide +kernel

end Riti.C08
