/-
Lemmas/BijoyFast — the encoder of Model/Bijoy.lean once more, with the look-up in `MAP` as a parameter (`bijoyW`; with
`mapGet` it is `bijoy`: `bijoyW_mapGet`), used only to evaluate test vectors in the kernel (Props/BijoySamples* through
`bijoy_fast`, the longer ones of Props/Bijoy): nearly all of the work of evaluating `bijoy` on a word is
`alookup bijoyMap`, a scan of 260 entries with a list comparison at each, and `getFast` is the same function at a
fraction of that.
-/
import RitiModel.Lemmas.Bijoy
namespace Riti.Bijoy
open Riti Riti.Gen.Bijoy

section
variable (get : List Nat → Option (List Nat))

def convertBufferW (buf rout : List Nat) : List Nat :=
  let reph := sReph.isPrefixOf buf
  let b1 := if reph then buf.drop 2 else buf
  let b2 := if sRZwj.isPrefixOf b1 then b1.take 1 ++ b1.drop 2 else b1
  let zf := sZFola.isSuffixOf b2
  let b3 := if zf then b2.take (b2.length - 2) else b2
  let hs := [cHas].isSuffixOf b3
  let b4 := if hs then b3.take (b3.length - 1) else b3
  let o1 := match get b4 with
    | some r => r.reverse ++ rout
    | none => rout
  let o2 := if zf then oZFola :: o1 else o1
  let o3 := if reph then oReph :: o2 else o2
  if hs then oHasanta :: o3 else o3

def execW (a : Arm) (rpre : List Nat) (c : Nat) (st : St) : Res St :=
  match a with
  | .oKar =>
    match replaceKar kE (isFrontFacing rpre) sEmpty with
    | .error e => .error e
    | .ok k => .ok { st with rout := oAaTail :: convertBufferW get st.buf (k :: st.rout), buf := [] }
  | .ouKar =>
    match replaceKar kE (isFrontFacing rpre) sEmpty with
    | .error e => .error e
    | .ok k => .ok { st with rout := oAuTail :: convertBufferW get st.buf (k :: st.rout), buf := [] }
  | .frontKar =>
    match replaceKar c (isFrontFacing rpre) sEmpty with
    | .error e => .error e
    | .ok k => .ok { st with rout := convertBufferW get st.buf (k :: st.rout), buf := [] }
  | .gU => .ok { st with rout := oGU :: st.rout, buf := [] }
  | .shU => .ok { st with rout := oShU :: st.rout, buf := [] }
  | .hU => .ok { st with rout := oHU :: st.rout, buf := [] }
  | .tU => .ok { st with rout := oTU :: (convertBufferW get st.buf st.rout).tail, buf := [] }
  | .hRri => .ok { st with rout := oHRri :: st.rout, buf := [] }
  | .kar =>
    match replaceKar c false st.buf with
    | .error e => .error e
    | .ok k => .ok { st with rout := k :: convertBufferW get st.buf st.rout, buf := [] }
  | .hasanta => .ok { st with buf := st.buf ++ [B_HASANTA], hs := true }
  | .dari => .ok { st with rout := oDari :: convertBufferW get st.buf st.rout, buf := [] }
  | .ddari => .ok { st with rout := oDdari :: convertBufferW get st.buf st.rout, buf := [] }
  | .zwj => .ok { st with buf := st.buf ++ [ZWJ] }
  | .zwnj =>
    if [B_HASANTA].isSuffixOf st.buf then
      .ok { rout := oHasanta :: convertBufferW get (st.buf.take (st.buf.length - 1)) st.rout, buf := [], hs := false }
    else .ok st
  | .afterHasanta => .ok { st with buf := st.buf ++ [c], hs := false }
  | .bengali => .ok { st with rout := convertBufferW get st.buf st.rout, buf := [c] }
  | .other => .ok { st with rout := c :: convertBufferW get st.buf st.rout, buf := [] }

def loopW : List Nat → List Nat → St → Res St
  | _, [], st => .ok st
  | rpre, c :: cs, st =>
    match execW get (classify c st) rpre c st with
    | .error e => .error e
    | .ok st' => loopW (c :: rpre) cs st'

def bijoyW (s : List Char) : Res (List Char) :=
  match loopW get [] (s.map Char.toNat) { rout := [], buf := [], hs := false } with
  | .error e => .error e
  | .ok st => .ok ((if st.buf.isEmpty then st.rout else convertBufferW get st.buf st.rout).reverse.map Char.ofNat)

end

theorem convertBufferW_mapGet : convertBufferW mapGet = convertBuffer := by
  funext buf rout
  unfold convertBufferW convertBuffer
  dsimp only
  cases mapGet _ <;> rfl

theorem execW_mapGet : execW mapGet = exec := by
  unfold execW exec
  rw [convertBufferW_mapGet]
  rfl

theorem loopW_mapGet (rpre s : List Nat) (st : St) : loopW mapGet rpre s st = loop rpre s st := by
  induction s generalizing rpre st with
  | nil => rfl
  | cons c cs ih =>
    unfold loopW loop step
    rw [execW_mapGet]
    cases exec (classify c st) rpre c st
    · rfl
    · exact ih _ _

theorem bijoyW_mapGet (s : List Char) : bijoyW mapGet s = bijoy s := by
  unfold bijoyW bijoy encodeNat
  rw [loopW_mapGet, convertBufferW_mapGet]
  cases loop [] (s.map Char.toNat) { rout := [], buf := [], hs := false } <;> rfl

/-- `mapGet`, cheaper for the kernel: the empty key at once (every kar arm leaves an empty buffer that the next consonant
    flushes), the others among the entries with the same first code point (a comparison of numerals, where `alookup`
    compares lists) -/
def getFast : List Nat → Option (List Nat)
  | [] => none
  | c :: cs => alookup (bijoyMap.filter fun e => Nat.beq (e.1.headD 0) c) (c :: cs)

theorem getFast_eq : getFast = mapGet := by
  funext k
  cases k with
  | nil => exact mapGet_nil.symm
  | cons c cs => exact AList.alookup_filter _ _ _ fun a _ h => by rw [eq_of_beq h]; exact Nat.beq_refl c

theorem bijoy_fast {l r : List Char} (h : bijoyW getFast l = .ok r) :
    bijoy (String.ofList l).toList = .ok (String.ofList r).toList :=
  bijoy_lit (by rwa [getFast_eq, bijoyW_mapGet] at h)

end Riti.Bijoy
