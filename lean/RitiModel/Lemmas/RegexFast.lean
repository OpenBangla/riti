/-
Lemmas/RegexFast — helpers for Props/RegexFast: segments of a string between two positions, and the bits of `posMask`.
-/
import RitiModel.Model.Regex
namespace Riti

/-- the segment of `s` from position `j` (included) to position `i` (excluded) -/
def seg (s : List Char) (j i : Nat) : List Char := (s.drop j).take (i - j)

theorem seg_length {s : List Char} {j i : Nat} (h1 : j ≤ i) (h2 : i ≤ s.length) : (seg s j i).length = i - j := by
  simp only [seg, List.length_take, List.length_drop]; omega

theorem seg_append {s : List Char} {j k i : Nat} (h1 : j ≤ k) (h2 : k ≤ i) :
    seg s j k ++ seg s k i = seg s j i := by
  have e : i - j = (k - j) + (i - k) := by omega
  have e2 : j + (k - j) = k := by omega
  simp only [seg]
  rw [e, List.take_add, List.drop_drop, e2]

theorem seg_eq_nil_iff {s : List Char} {j i : Nat} (h1 : j ≤ i) (h2 : i ≤ s.length) : seg s j i = [] ↔ i = j := by
  rw [← List.length_eq_zero_iff, seg_length h1 h2]; omega

theorem seg_split {s s1 s2 : List Char} {j i : Nat} (h1 : j ≤ i) (h2 : i ≤ s.length) (h : seg s j i = s1 ++ s2) :
    j + s1.length ≤ i ∧ s1 = seg s j (j + s1.length) ∧ s2 = seg s (j + s1.length) i := by
  have hl := seg_length h1 h2
  rw [h, List.length_append] at hl
  have hk : j + s1.length ≤ i := by omega
  have ha := seg_append (s := s) (Nat.le_add_right j s1.length) hk
  obtain ⟨e1, e2⟩ := List.append_inj (ha.trans h) (by rw [seg_length (by omega) (by omega)]; omega)
  exact ⟨hk, e1.symm, e2.symm⟩

theorem seg_succ (s : List Char) (j : Nat) : seg s j (j + 1) = s[j]?.toList := by
  have e : j + 1 - j = 1 := by omega
  simp only [seg, e, List.take_one, List.head?_drop]

theorem seg_eq_singleton_iff {s : List Char} {j i : Nat} {c : Char} (h1 : j ≤ i) (h2 : i ≤ s.length) :
    seg s j i = [c] ↔ i = j + 1 ∧ s[j]? = some c := by
  by_cases hi : i = j + 1
  · rw [hi, seg_succ, Option.toList_eq_singleton_iff]; exact (and_iff_right rfl).symm
  · have hl := seg_length h1 h2
    exact ⟨fun h => absurd hl (by rw [h, List.length_singleton]; omega), fun h => absurd h.1 hi⟩

theorem seg_zero_length (s : List Char) : seg s 0 s.length = s := by simp [seg]

theorem posMask_testBit (p : Char → Bool) : ∀ (s : List Char) (off i : Nat),
    (posMask p s off).testBit i = true ↔ ∃ j, i = off + j ∧ ∃ x, s[j]? = some x ∧ p x = true
  | [], off, i => by simp [posMask]
  | y :: r, off, i => by
    rw [posMask, Nat.testBit_or, Bool.or_eq_true, posMask_testBit p r (off + 1) i]
    constructor
    · rintro (h | ⟨j, rfl, x, hx, hp⟩)
      · by_cases hy : p y = true
        · rw [if_pos hy, Nat.one_shiftLeft, Nat.testBit_two_pow] at h
          have : off = i := by simpa using h
          exact ⟨0, by omega, y, by simp, hy⟩
        · rw [if_neg hy, Nat.zero_testBit] at h; cases h
      · exact ⟨j + 1, by omega, x, by simpa using hx, hp⟩
    · rintro ⟨j, rfl, x, hx, hp⟩
      cases j with
      | zero =>
        left
        have : y = x := by simpa using hx
        subst this
        rw [if_pos hp, Nat.one_shiftLeft, Nat.testBit_two_pow]; simp
      | succ j =>
        right
        exact ⟨j, by omega, x, by simpa using hx, hp⟩

end Riti
