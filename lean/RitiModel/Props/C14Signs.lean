/-
Props/C14Signs — independent vowels typed with their SIGN keys, under the old vowel-sign order.
With automatic vowel forming ON a sign key typed in a vowel-forming position (empty text, after a
vowel or vowel sign, after one of the ASCII punctuation MARKS) gives the independent vowel.  With
the old vowel-sign order ON a left-standing sign (ি ে ৈ) first WAITS; when the next key is another
vowel sign the engine turns the waiting sign into its independent vowel (if the position is
vowel-forming) and goes on.  This file says when that gives the same text as with the option off
(`sign_keys_same_text_partial`, exact: `sign_keys_same_text_iff`), and records the boundary: the
two-part spellings ো ৌ, positions that are not vowel-forming, two left-standing signs in a row.
These key sequences are OUTSIDE the syllable language of Props/C14 (`old_order_equiv_partial`).
`rbuf` is the REVERSED buffer; `FState.buffer` the text as the user sees it.
-/
import RitiModel.Lemmas.C14Signs
namespace Riti.C14Signs
open Riti Riti.Gen

/-! ## 0. Vocabulary -/

/-- the model's own vowel-forming test (`autoVowelPos`: empty, or last character a vowel / vowel
    sign, or last character one of MARKS) applied to a text in reading order -/
def vowelForming (b : Str) : Bool := autoVowelPos b.reverse (b.reverse.headD '\x00')

/-- the independent vowel of a sign (the sign itself for U+09C4, which has none) -/
def indep (k : Char) : Char := (karToVowel k).getD k

/-- the left-standing signs ি ে ৈ -/
def leftSigns : List Char := [cIKar, cEKar, cOIKar]

/-- the signs that are not left-standing and have an independent vowel: া ী ু ূ ৃ and the one-key
    ো ৌ (layouts that have keys for them); U+09C4 has no independent form, ৗ is not a sign -/
def plainSigns : List Char := [cAAKar, cIIKar, cUKar, cUUKar, cRRIKar, cOKar, cOUKar]

/-- the state a text is typed from: that text, nothing waiting -/
def start (b : Str) : FState := { rbuf := b.reverse }

/-- `method.buffer = b; process_key_value(k₁); …` — the final state -/
def run (cfg : Cfg) (b : String) (keys : List String) : FState :=
  typeAll cfg (keys.map String.toList) (start b.toList)

/-- the table of independent vowels: ি→ই ে→এ ৈ→ঐ, া→আ ী→ঈ ু→উ ূ→ঊ ৃ→ঋ ো→ও ৌ→ঔ -/
theorem indep_table :
    leftSigns.map indep = [cI, cE, cOI] ∧
    plainSigns.map indep = [cAA, cII, cU, cUU, cRRI, cO, cOU] := by decide +kernel

/-- `vowelForming` spelled out: the text is empty or its last character is a vowel / vowel sign or
    one of MARKS -/
theorem vowelForming_iff (b : Str) :
    vowelForming b = true ↔ b = [] ∨ ∃ c, b.getLast? = some c ∧ (isVowel c = true ∨ isMark c = true) := by
  unfold vowelForming autoVowelPos
  rw [← List.head?_reverse]
  cases h : b.reverse with
  | nil => simp [List.reverse_eq_nil_iff.mp h]
  | cons a r =>
    have : b ≠ [] := by intro hb; simp [hb] at h
    simp [this]

theorem vowelForming_buffer (s : FState) :
    vowelForming s.buffer = autoVowelPos s.rbuf (s.rbuf.headD '\x00') := by
  simp [vowelForming, FState.buffer]

/-- `plainSigns` are exactly the signs that are not left-standing and have an independent vowel -/
theorem plainSigns_iff (k : Char) :
    k ∈ plainSigns ↔ isKar k = true ∧ isLeftStandingKar k = false ∧ (karToVowel k).isSome = true := by
  have h1 : ∀ k ∈ plainSigns, isKar k = true ∧ isLeftStandingKar k = false ∧ (karToVowel k).isSome = true := by
    decide +kernel
  have h2 : ∀ p ∈ karVowels, isLeftStandingKar p.1 = false → p.1 ∈ plainSigns := by decide +kernel
  refine ⟨h1 k, fun ⟨_, hl, hs⟩ => ?_⟩
  obtain ⟨v, hv⟩ := Option.isSome_iff_exists.mp hs
  exact h2 _ (karToVowel_mem hv) hl

theorem indepStr_eq {k : Char} (h : (karToVowel k).isSome = true) : indepStr k = [indep k] := by
  obtain ⟨v, hv⟩ := Option.isSome_iff_exists.mp h
  simp [indepStr, indep, hv]

/-- ি ে ৈ have the independent vowels ই এ ঐ: vowels, none of them ে -/
theorem indep_left : ∀ k ∈ leftSigns,
    karToVowel k = some (indep k) ∧ isVowel (indep k) = true ∧ (indep k == cEKar) = false := by decide

/-- `twoPart` (Lemmas/KarOrder) on the visible text: it fails unless the text ends in ে and the key is া or ৌ -/
theorem twoPart_false {s : FState} {k : Char}
    (hx : ¬ (s.buffer.getLast? = some cEKar ∧ (k = cAAKar ∨ k = cOUKar))) : twoPart s.rbuf k = false :=
  eq_false_of_ne_true fun h => by
    obtain ⟨⟨r, hr⟩, hk⟩ := twoPart_true h
    exact hx ⟨by rw [FState.buffer, hr, List.getLast?_reverse]; rfl, hk⟩

theorem leftSigns_lsk {k : Char} (h : k ∈ leftSigns) : isLeftStandingKar k = true :=
  (isLeftStandingKar_iff k).mpr (by simpa [leftSigns] using h)

theorem buffer_ne_hasanta {s : FState} (h : s.buffer.getLast? ≠ some cHasanta) :
    (s.rbuf.headD '\x00' == cHasanta) = false :=
  headD_ne_hasanta (by rwa [FState.buffer, List.getLast?_reverse] at h)

/-! ## 1. One sign key -/

/-- COUNTER-EXAMPLE to the full-strength single-key statement: after কে the key া gives `কেআ` with
    the option off and `কো` with it on (two-part spelling) -/
theorem single_sign_key_full_false :
    vowelForming "কে".toList = true ∧
    (run { fixedVowel := true, fixedKarOrder := true } "কে" ["া"]).buffer = "কো".toList ∧
    (run { fixedVowel := true, fixedKarOrder := false } "কে" ["া"]).buffer = "কেআ".toList := by decide +kernel

/-- PARTIAL — one sign key that is NOT left-standing, in a vowel-forming position, automatic vowel
    forming on, either setting of the old vowel-sign order (with it on: nothing waiting): the text
    gets the independent vowel of the sign (nothing for U+09C4), everything else is unchanged.
    Excluded when the option is on: text ends in ে and the key is া or ৌ (`single_sign_key_full_false`). -/
theorem single_sign_key_partial (cfg : Cfg) (hv : cfg.fixedVowel = true) (s : FState)
    (hpos : vowelForming s.buffer = true) (k : Char) (hk : isKar k = true)
    (hl : isLeftStandingKar k = false)
    (hon : cfg.fixedKarOrder = true → s.pending = none ∧ twoPart s.rbuf k = false) :
    processKeyValue cfg s [k] = { s with rbuf := indepStr k ++ s.rbuf } := by
  rw [vowelForming_buffer] at hpos
  rw [processKeyValue_eq, pkv_sign_forming cfg hv hk hpos fun h => ⟨(hon h).1, hl, (hon h).2⟩]
  rfl

/-- the same on the visible text, for the signs with an independent vowel: `b ++ [indep k]` in both
    settings -/
theorem single_sign_key_text_partial (cfg : Cfg) (hv : cfg.fixedVowel = true) (s : FState)
    (hpos : vowelForming s.buffer = true) (k : Char) (hk : k ∈ plainSigns)
    (hon : cfg.fixedKarOrder = true → s.pending = none ∧
      ¬ (s.buffer.getLast? = some cEKar ∧ (k = cAAKar ∨ k = cOUKar))) :
    (processKeyValue cfg s [k]).buffer = s.buffer ++ [indep k] ∧
    (processKeyValue cfg s [k]).pending = s.pending := by
  obtain ⟨hk', hl, hs⟩ := (plainSigns_iff k).mp hk
  rw [single_sign_key_partial cfg hv s hpos k hk' hl (fun h1 => ⟨(hon h1).1, twoPart_false (hon h1).2⟩), indepStr_eq hs]
  simp [FState.buffer]

/-- one LEFT-standing sign key in a vowel-forming position: with the option off it gives its
    independent vowel at once; with the option on the text is unchanged and the sign waits (it turns
    into the vowel only when the next key is a sign, `sign_keys_same_text_partial`; a consonant takes
    it as its sign, C14 `pending_released`) -/
theorem single_left_sign_key (cfg : Cfg) (hv : cfg.fixedVowel = true) (s : FState)
    (hpos : vowelForming s.buffer = true) (k : Char) (hk : k ∈ leftSigns) :
    processKeyValue { cfg with fixedKarOrder := false } s [k] = { s with rbuf := indep k :: s.rbuf } ∧
    processKeyValue { cfg with fixedKarOrder := true } s [k] = { s with pending := some k } := by
  rw [vowelForming_buffer] at hpos
  have hk' := leftSigns_lsk hk
  constructor
  · rw [processKeyValue_eq, pkv_sign_forming { cfg with fixedKarOrder := false } hv (lskFacts hk').kar hpos nofun]
    simp [indepStr, (indep_left k hk).1, FState.put]
  · rw [processKeyValue_eq,
      pkv_capture { cfg with fixedKarOrder := true } rfl hk' (forming_not_hasanta hpos)]
    rfl

/-! ## 2. Two sign keys: a left-standing sign, then a sign that is not left-standing -/

/-- COUNTER-EXAMPLE to the full-strength statement: after কে (a vowel-forming position — ে is a
    vowel sign) the keys ি া give `কেইআ` with the option off, but with the option on the া is taken
    as the second half of the two-part spelling of ো: the text becomes `কো` and the ি is STILL
    waiting.  The same with ৌ for া.  In all settings of automatic chandrabindu / traditional joining. -/
theorem sign_keys_same_text_full_false :
    ∀ ch ∈ [false, true], ∀ tk ∈ [false, true],
      let cfg : Cfg := { fixedVowel := true, fixedChandra := ch, fixedKar := tk }
      vowelForming "কে".toList = true ∧
      (run { cfg with fixedKarOrder := true } "কে" ["ি", "া"]).buffer = "কো".toList ∧
      (run { cfg with fixedKarOrder := true } "কে" ["ি", "া"]).pending = some cIKar ∧
      (run { cfg with fixedKarOrder := false } "কে" ["ি", "া"]).buffer = "কেইআ".toList ∧
      (run { cfg with fixedKarOrder := true } "কে" ["ি", "ৌ"]).buffer = "কৌ".toList ∧
      (run { cfg with fixedKarOrder := true } "কে" ["ি", "ৌ"]).pending = some cIKar ∧
      (run { cfg with fixedKarOrder := false } "কে" ["ি", "ৌ"]).buffer = "কেইঔ".toList := by
  decide +kernel

/-- the full-strength statement (every vowel-forming text, every left-standing sign, every sign of
    `plainSigns`) is FALSE of the code -/
theorem sign_keys_same_text_false :
    ¬ ∀ (cfg : Cfg) (b : Str) (k1 k2 : Char), cfg.fixedVowel = true → vowelForming b = true →
        k1 ∈ leftSigns → k2 ∈ plainSigns →
        (typeAll { cfg with fixedKarOrder := true } [[k1], [k2]] (start b)).buffer =
          (typeAll { cfg with fixedKarOrder := false } [[k1], [k2]] (start b)).buffer := by
  intro h
  have := h { fixedVowel := true } "কে".toList cIKar cAAKar rfl (by decide) (by decide) (by decide)
  revert this
  decide +kernel

/-- with the old order OFF, a left-standing sign and then a sign that is not left-standing, in a vowel-forming
    position: each gives its independent vowel at once (nothing for U+09C4) — the position after the first
    vowel is vowel-forming again; the waiting field is not used -/
theorem sign_keys_off (cfg : Cfg) (hv : cfg.fixedVowel = true) (s : FState)
    (hpos : vowelForming s.buffer = true) (k1 k2 : Char) (hk1 : k1 ∈ leftSigns) (hk2 : isKar k2 = true)
    (hl2 : isLeftStandingKar k2 = false) :
    typeAll { cfg with fixedKarOrder := false } [[k1], [k2]] s =
      { s with rbuf := indepStr k2 ++ indep k1 :: s.rbuf } := by
  show processKeyValue _ (processKeyValue _ s [k1]) [k2] = _
  rw [(single_left_sign_key cfg hv s hpos k1 hk1).1,
    single_sign_key_partial { cfg with fixedKarOrder := false } hv _
      (by simp [vowelForming_buffer, autoVowelPos, (indep_left k1 hk1).2.1]) k2 hk2 hl2 nofun]

/-- PARTIAL, as state equations (the strongest form).  Automatic vowel forming on, any setting of
    the other options, any state whose text ends in a vowel-forming position (whatever was waiting
    before), `k1` one of ি ে ৈ, `k2` ANY sign that is not left-standing (া ী ু ূ ৃ ো ৌ and U+09C4):
    with the old order ON the two keys leave the text followed by the independent vowel of `k1` and
    that of `k2` (nothing for U+09C4), and nothing waiting; with it OFF the same text (the waiting
    field is not used).  Excluded: the text ends in ে and `k2` is া or ৌ (`twoPart`), where the code
    differs — see `sign_keys_same_text_full_false`, `sign_keys_same_text_iff`. -/
theorem sign_keys_state_partial (cfg : Cfg) (hv : cfg.fixedVowel = true) (s : FState)
    (hpos : vowelForming s.buffer = true) (k1 k2 : Char) (hk1 : k1 ∈ leftSigns)
    (hk2 : isKar k2 = true) (hl2 : isLeftStandingKar k2 = false) (hx : twoPart s.rbuf k2 = false) :
    typeAll { cfg with fixedKarOrder := true } [[k1], [k2]] s =
      { s with rbuf := indepStr k2 ++ indep k1 :: s.rbuf, pending := none } ∧
    typeAll { cfg with fixedKarOrder := false } [[k1], [k2]] s =
      { s with rbuf := indepStr k2 ++ indep k1 :: s.rbuf } := by
  refine ⟨?_, sign_keys_off cfg hv s hpos k1 k2 hk1 hk2 hl2⟩
  rw [vowelForming_buffer] at hpos
  obtain ⟨h1, hv1, he1⟩ := indep_left k1 hk1
  rw [typeAll_eq, pkvRun_cons,
    pkv_capture { cfg with fixedKarOrder := true } rfl (leftSigns_lsk hk1) (forming_not_hasanta hpos), pkvRun_cons,
    pkv_sign_on_pending { cfg with fixedKarOrder := true } rfl hv h1 hv1 he1 hk2 hl2 hpos hx]
  rfl

/-- PARTIAL — the main statement, on the visible text.  Automatic vowel forming on, every setting of
    the other options (automatic chandrabindu, traditional joining, old reph, …), every state whose
    text `b` ends in a vowel-forming position (empty, after a vowel or vowel sign, after one of
    MARKS), every `k1 ∈ {ি, ে, ৈ}` and every `k2 ∈ {া, ী, ু, ূ, ৃ, ো, ৌ}` (`plainSigns`; ো ৌ as
    one-key signs): typing `k1` then `k2` with the old vowel-sign order ON gives `b ++ [indep k1,
    indep k2]` with nothing left waiting, and with it OFF the same text.  Excluded — exactly
    (`sign_keys_same_text_iff`) — `b` ends in ে and `k2` is া or ৌ: there the code with the option ON
    reads the key as the second half of ো / ৌ (`sign_keys_same_text_full_false`). -/
theorem sign_keys_same_text_partial (cfg : Cfg) (hv : cfg.fixedVowel = true) (s : FState)
    (hpos : vowelForming s.buffer = true) (k1 k2 : Char) (hk1 : k1 ∈ leftSigns) (hk2 : k2 ∈ plainSigns)
    (hx : ¬ (s.buffer.getLast? = some cEKar ∧ (k2 = cAAKar ∨ k2 = cOUKar))) :
    (typeAll { cfg with fixedKarOrder := true } [[k1], [k2]] s).buffer = s.buffer ++ [indep k1, indep k2] ∧
    (typeAll { cfg with fixedKarOrder := true } [[k1], [k2]] s).pending = none ∧
    (typeAll { cfg with fixedKarOrder := false } [[k1], [k2]] s).buffer = s.buffer ++ [indep k1, indep k2] := by
  obtain ⟨hk, hl, hs⟩ := (plainSigns_iff k2).mp hk2
  obtain ⟨e1, e2⟩ := sign_keys_state_partial cfg hv s hpos k1 k2 hk1 hk hl (twoPart_false hx)
  rw [e1, e2, indepStr_eq hs]
  simp [FState.buffer]

/-- the same for a plain text `b` (typed from `b`, nothing waiting) and the five signs া ী ু ূ ৃ, for
    which the only excluded case is `b` ending in ে with `k2 = া` -/
theorem sign_keys_same_text_from_partial (cfg : Cfg) (hv : cfg.fixedVowel = true) (b : Str)
    (hpos : vowelForming b = true) (k1 k2 : Char) (hk1 : k1 ∈ leftSigns)
    (hk2 : k2 ∈ [cAAKar, cIIKar, cUKar, cUUKar, cRRIKar])
    (hx : ¬ (b.getLast? = some cEKar ∧ k2 = cAAKar)) :
    (typeAll { cfg with fixedKarOrder := true } [[k1], [k2]] (start b)).buffer = b ++ [indep k1, indep k2] ∧
    (typeAll { cfg with fixedKarOrder := true } [[k1], [k2]] (start b)).pending = none ∧
    (typeAll { cfg with fixedKarOrder := false } [[k1], [k2]] (start b)).buffer = b ++ [indep k1, indep k2] := by
  have hb : (start b).buffer = b := by simp [start, FState.buffer]
  obtain ⟨hk2', hne⟩ : k2 ∈ plainSigns ∧ k2 ≠ cOUKar :=
    (by decide : ∀ k ∈ [cAAKar, cIIKar, cUKar, cUUKar, cRRIKar], k ∈ plainSigns ∧ k ≠ cOUKar) k2 hk2
  have := sign_keys_same_text_partial cfg hv (start b) (by rw [hb]; exact hpos) k1 k2 hk1 hk2'
    (by rw [hb]; rintro ⟨h1, h2 | h2⟩; exact hx ⟨h1, h2⟩; exact hne h2)
  rwa [hb] at this

/-- EXACTNESS of the exclusion: under the hypotheses of `sign_keys_state_partial` the two settings
    compose the same text IF AND ONLY IF the keys do not complete a two-part spelling (text ends in ে,
    second key া or ৌ).  In the excluded case the option-ON text is the old text with its ে replaced
    by ো / ৌ and the first sign is still waiting. -/
theorem sign_keys_same_text_iff (cfg : Cfg) (hv : cfg.fixedVowel = true) (s : FState)
    (hpos : vowelForming s.buffer = true) (k1 k2 : Char) (hk1 : k1 ∈ leftSigns)
    (hk2 : isKar k2 = true) (hl2 : isLeftStandingKar k2 = false) :
    ((typeAll { cfg with fixedKarOrder := true } [[k1], [k2]] s).rbuf =
      (typeAll { cfg with fixedKarOrder := false } [[k1], [k2]] s).rbuf ↔ twoPart s.rbuf k2 = false) ∧
    (twoPart s.rbuf k2 = true →
      typeAll { cfg with fixedKarOrder := true } [[k1], [k2]] s =
        { s with rbuf := (if k2 = cAAKar then cOKar else cOUKar) :: s.rbuf.drop 1, pending := some k1 }) := by
  have on_two : twoPart s.rbuf k2 = true →
      typeAll { cfg with fixedKarOrder := true } [[k1], [k2]] s =
        { s with rbuf := (if k2 = cAAKar then cOKar else cOUKar) :: s.rbuf.drop 1, pending := some k1 } := by
    intro h
    obtain ⟨⟨r, hr⟩, hk⟩ := twoPart_true h
    rw [typeAll_eq, hr, pkvRun_cons,
      pkv_capture { cfg with fixedKarOrder := true } rfl (leftSigns_lsk hk1) (by show (cEKar == cHasanta) = false; decide),
      pkvRun_cons, pkv_two_part { cfg with fixedKarOrder := true } rfl hk]
    rfl
  refine ⟨?_, on_two⟩
  cases hx : twoPart s.rbuf k2 with
  | false =>
    obtain ⟨e1, e2⟩ := sign_keys_state_partial cfg hv s hpos k1 k2 hk1 hk2 hl2 hx
    rw [e1, e2]; simp
  | true =>
    -- the option-on text has lost a code point, the option-off text has gained at least one
    obtain ⟨⟨r, hr⟩, -⟩ := twoPart_true hx
    rw [on_two hx, sign_keys_off cfg hv s hpos k1 k2 hk1 hk2 hl2]
    simp only [Bool.true_eq_false, iff_false]
    intro h
    have := congrArg List.length h
    simp only [hr, List.length_cons, List.length_append, List.drop_succ_cons, List.drop_zero] at this
    omega

/-- a sign WITHOUT an independent form (U+09C4) as second key is dropped in both settings: only the
    independent vowel of the first sign is added -/
theorem sign_without_indep_dropped (cfg : Cfg) (hv : cfg.fixedVowel = true) (s : FState)
    (hpos : vowelForming s.buffer = true) (k1 : Char) (hk1 : k1 ∈ leftSigns) :
    typeAll { cfg with fixedKarOrder := true } [[k1], [Char.ofNat 0x09C4]] s =
      { s with rbuf := indep k1 :: s.rbuf, pending := none } ∧
    typeAll { cfg with fixedKarOrder := false } [[k1], [Char.ofNat 0x09C4]] s =
      { s with rbuf := indep k1 :: s.rbuf } := by
  have hx : twoPart s.rbuf (Char.ofNat 0x09C4) = false := by
    have : ((Char.ofNat 0x09C4 == cAAKar) || (Char.ofNat 0x09C4 == cOUKar)) = false := by decide
    simp [twoPart, this]
  exact sign_keys_state_partial cfg hv s hpos k1 (Char.ofNat 0x09C4) hk1 (by decide) (by decide) hx

/-- the length mark ৗ (second half of the two-part ৌ) is NOT a sign for the engine: after a waiting
    sign it is appended like a consonant and the sign is put after it.  On an empty text ি ৗ gives
    `ৗি` with the option on and `ইৗ` with it off — excluded from `plainSigns` for this reason. -/
theorem length_mark_is_no_sign :
    isKar cLengthMark = false ∧
    (run { fixedVowel := true, fixedKarOrder := true } "" ["ি", "ৗ"]).buffer = "ৗি".toList ∧
    (run { fixedVowel := true, fixedKarOrder := false } "" ["ি", "ৗ"]).buffer = "ইৗ".toList := by decide +kernel

/-! ## 3. The boundary -/

/-- the 4 settings of automatic chandrabindu / traditional joining, automatic vowel forming on -/
def helperCfgs : List Cfg :=
  [false, true].flatMap fun b => [false, true].map fun c =>
    { fixedVowel := true, fixedChandra := b, fixedKar := c }

/-- GENERAL: option on, a sign waiting, the position NOT vowel-forming (or automatic vowel forming
    off) and not after a hasanta, no two-part spelling: a second sign key that is not left-standing
    makes the waiting sign DISAPPEAR — the result is what the second key alone gives (`karTail`) -/
theorem waiting_sign_lost_before_sign (cfg : Cfg) (s : FState) (k1 k2 : Char) (hk1 : k1 ∈ leftSigns)
    (hk2 : isKar k2 = true) (hl2 : isLeftStandingKar k2 = false)
    (hnpos : (cfg.fixedVowel && vowelForming s.buffer) = false)
    (hh : s.buffer.getLast? ≠ some cHasanta) (hx : twoPart s.rbuf k2 = false) :
    typeAll { cfg with fixedKarOrder := true } [[k1], [k2]] s =
      { s with rbuf := karTail cfg s.rbuf (s.rbuf.headD '\x00') k2, pending := none } := by
  rw [vowelForming_buffer] at hnpos
  have h1 := buffer_ne_hasanta hh
  rw [typeAll_eq, pkvRun_cons, pkv_capture { cfg with fixedKarOrder := true } rfl (leftSigns_lsk hk1) h1,
    pkvRun_cons, pkv_sign_on_pending_lost { cfg with fixedKarOrder := true } rfl k1 hk2 hl2 hnpos h1 hx]
  rfl

/-- after the danda (U+0964, NOT one of the ASCII MARKS, so not vowel-forming): ি then া.  Option off:
    the ি is attached raw and the া, now after a vowel sign, becomes আ — `।িআ`.  Option on: the waiting
    ি is LOST and the া attached raw — `।া`.  The two settings differ; in all 4 helper settings. -/
theorem after_danda :
    vowelForming "।".toList = false ∧
    ∀ cfg ∈ helperCfgs,
      (run { cfg with fixedKarOrder := false } "।" ["ি", "া"]).buffer = "।িআ".toList ∧
      (run { cfg with fixedKarOrder := true } "।" ["ি", "া"]).buffer = "।া".toList ∧
      (run { cfg with fixedKarOrder := true } "।" ["ি", "া"]).pending = none := by decide +kernel

/-- after a Bengali digit: the same behaviour as after the danda -/
theorem after_digit :
    vowelForming "৫".toList = false ∧
    ∀ cfg ∈ helperCfgs,
      (run { cfg with fixedKarOrder := false } "৫" ["ি", "া"]).buffer = "৫িআ".toList ∧
      (run { cfg with fixedKarOrder := true } "৫" ["ি", "া"]).buffer = "৫া".toList ∧
      (run { cfg with fixedKarOrder := true } "৫" ["ি", "া"]).pending = none := by decide +kernel

/-- after a bare consonant: option off, the ি attaches to the consonant and the া after it becomes
    আ — `কিআ`; option on, the waiting ি is lost and the া attaches — `কা`.  With a ligature-making
    sign as second key (ু): `কিউ` against `কু` (`ক ZWNJ ু` under traditional joining). -/
theorem after_consonant :
    vowelForming "ক".toList = false ∧
    ∀ cfg ∈ helperCfgs,
      (run { cfg with fixedKarOrder := false } "ক" ["ি", "া"]).buffer = "কিআ".toList ∧
      (run { cfg with fixedKarOrder := true } "ক" ["ি", "া"]).buffer = "কা".toList ∧
      (run { cfg with fixedKarOrder := true } "ক" ["ি", "া"]).pending = none ∧
      (run { cfg with fixedKarOrder := false } "ক" ["ি", "ু"]).buffer = "কিউ".toList ∧
      (run { cfg with fixedKarOrder := true } "ক" ["ি", "ু"]).buffer =
        (if cfg.fixedKar then "ক\u200cু" else "কু").toList := by decide +kernel

/-- after a hasanta (not vowel-forming, "Vowel making with Hasanta"): the left-standing sign does
    not wait, it replaces the hasanta by its independent vowel in both settings, and the next sign
    then stands after a vowel — `ক্` ি া gives `কইআ` either way -/
theorem after_hasanta :
    vowelForming "ক্".toList = false ∧
    ∀ cfg ∈ helperCfgs,
      (run { cfg with fixedKarOrder := false } "ক্" ["ি", "া"]).buffer = "কইআ".toList ∧
      (run { cfg with fixedKarOrder := true } "ক্" ["ি", "া"]).buffer = "কইআ".toList ∧
      (run { cfg with fixedKarOrder := true } "ক্" ["ি", "া"]).pending = none := by decide +kernel

/-- GENERAL: option on, the text ends in ে, a sign waiting: া / ৌ completes the two-part spelling
    (ে becomes ো / ৌ) and the waiting sign is neither used nor dropped — it goes on waiting -/
theorem two_part_keeps_waiting (cfg : Cfg) (hon : cfg.fixedKarOrder = true) (r t : Str)
    (p : Option Char) (sg : List Rank) (k : Char) (hk : k = cAAKar ∨ k = cOUKar) :
    processKeyValue cfg ⟨cEKar :: r, t, p, sg⟩ [k] =
      ⟨(if k = cAAKar then cOKar else cOUKar) :: r, t, p, sg⟩ := by
  rw [processKeyValue_eq, pkv_two_part cfg hon hk]; rfl

/-- witness: from কে, the keys ি া with the option on give `কো` — the া joins the ে — and the ি is
    still waiting: the next consonant takes it (`কোমি`), one backspace discards it.  With the
    option off the same keys give `কেইআ`. -/
theorem two_part_o_witness :
    ∀ cfg ∈ helperCfgs,
      (run { cfg with fixedKarOrder := true } "কে" ["ি", "া"]).buffer = "কো".toList ∧
      (run { cfg with fixedKarOrder := true } "কে" ["ি", "া"]).pending = some cIKar ∧
      (run { cfg with fixedKarOrder := true } "কে" ["ি", "া", "ম"]).buffer = "কোমি".toList ∧
      (fBackspaceState (run { cfg with fixedKarOrder := true } "কে" ["ি", "া"]) false).1.buffer = "কো".toList ∧
      (fBackspaceState (run { cfg with fixedKarOrder := true } "কে" ["ি", "া"]) false).1.pending = none ∧
      (run { cfg with fixedKarOrder := false } "কে" ["ি", "া"]).buffer = "কেইআ".toList := by decide +kernel

/-- GENERAL: option on, two left-standing signs in a row: the second replaces the first, which is
    LOST (whatever the position) -/
theorem second_left_sign_replaces_first (cfg : Cfg) (s : FState) (k1 k2 : Char) (hk1 : k1 ∈ leftSigns)
    (hk2 : k2 ∈ leftSigns) (hh : s.buffer.getLast? ≠ some cHasanta) :
    typeAll { cfg with fixedKarOrder := true } [[k1], [k2]] s = { s with pending := some k2 } := by
  have h1 := buffer_ne_hasanta hh
  rw [typeAll_eq, pkvRun_cons, pkv_capture { cfg with fixedKarOrder := true } rfl (leftSigns_lsk hk1) h1,
    pkvRun_cons, pkv_capture { cfg with fixedKarOrder := true } rfl (leftSigns_lsk hk2) h1]
  rfl

/-- witness (an observation outside C14's syllable language): two left-standing signs then a
    consonant.  Option on, `ি ি ক` gives `কি` — the first sign is lost, also with two different signs
    (`ে ি ক` gives `কি`); option off, the Unicode-order keys `ি ক ি` give `ইকি`.  All 4 helper settings. -/
theorem two_left_signs_lose_first :
    ∀ cfg ∈ helperCfgs,
      (run { cfg with fixedKarOrder := true } "" ["ি", "ি", "ক"]).buffer = "কি".toList ∧
      (run { cfg with fixedKarOrder := true } "" ["ি", "ি", "ক"]).pending = none ∧
      (run { cfg with fixedKarOrder := true } "" ["ে", "ি", "ক"]).buffer = "কি".toList ∧
      (run { cfg with fixedKarOrder := false } "" ["ি", "ক", "ি"]).buffer = "ইকি".toList ∧
      (run { cfg with fixedKarOrder := false } "" ["ি", "ি", "ক"]).buffer = "ইইক".toList := by decide +kernel

/-! ## 4. Non-vacuity -/

/-- `get_fixed_method_defaults()`: all helpers on -/
def testCfg : Cfg :=
  { fixedSuggestion := true, fixedVowel := true, fixedChandra := true, fixedKar := true,
    fixedNumpad := true, fixedOldReph := true }

/-- the four kinds of vowel-forming position, and three that are not -/
example : vowelForming [] = true ∧ vowelForming "(".toList = true ∧ vowelForming "আ".toList = true ∧
    vowelForming "কা".toList = true ∧ vowelForming "ক".toList = false ∧
    vowelForming "।".toList = false ∧ vowelForming "ক্".toList = false := by decide +kernel

/-- the hypotheses of `sign_keys_same_text_partial` hold for these texts with ে then ু … -/
example : ∀ b ∈ ["", "(", "আ", "কা"],
    vowelForming (start b.toList).buffer = true ∧ cEKar ∈ leftSigns ∧ cUKar ∈ plainSigns ∧
    ¬ ((start b.toList).buffer.getLast? = some cEKar ∧ (cUKar = cAAKar ∨ cUKar = cOUKar)) := by decide +kernel

/-- … and the conclusion evaluated: empty text -/
example :
    (run { testCfg with fixedKarOrder := true } "" ["ে", "ু"]).buffer = "এউ".toList ∧
    (run { testCfg with fixedKarOrder := true } "" ["ে", "ু"]).pending = none ∧
    (run { testCfg with fixedKarOrder := false } "" ["ে", "ু"]).buffer = "এউ".toList := by decide +kernel
/-- after one of MARKS -/
example :
    (run { testCfg with fixedKarOrder := true } "(" ["ি", "া"]).buffer = "(ইআ".toList ∧
    (run { testCfg with fixedKarOrder := true } "(" ["ি", "া"]).pending = none ∧
    (run { testCfg with fixedKarOrder := false } "(" ["ি", "া"]).buffer = "(ইআ".toList := by decide +kernel
/-- after an independent vowel -/
example :
    (run { testCfg with fixedKarOrder := true } "আ" ["ৈ", "ী"]).buffer = "আঐঈ".toList ∧
    (run { testCfg with fixedKarOrder := true } "আ" ["ৈ", "ী"]).pending = none ∧
    (run { testCfg with fixedKarOrder := false } "আ" ["ৈ", "ী"]).buffer = "আঐঈ".toList := by decide +kernel
/-- after a consonant with a vowel sign -/
example :
    (run { testCfg with fixedKarOrder := true } "কা" ["ে", "ৃ"]).buffer = "কাএঋ".toList ∧
    (run { testCfg with fixedKarOrder := true } "কা" ["ে", "ৃ"]).pending = none ∧
    (run { testCfg with fixedKarOrder := false } "কা" ["ে", "ৃ"]).buffer = "কাএঋ".toList := by decide +kernel
/-- the Rust test's "Automatic Vowel Forming" line: ে ো on an empty text gives এও -/
example : (run { testCfg with fixedKarOrder := true } "" ["ে", "ো"]).buffer = "এও".toList := by decide +kernel

/-- all 3 × 7 pairs on the four texts, all 4 helper settings, computed — agreeing with the theorem
    (no text here ends in ে) -/
example : ∀ cfg ∈ helperCfgs, ∀ b ∈ ["", "(", "আ", "কা"], ∀ k1 ∈ leftSigns, ∀ k2 ∈ plainSigns,
    (typeAll { cfg with fixedKarOrder := true } [[k1], [k2]] (start b.toList)).buffer =
      b.toList ++ [indep k1, indep k2] ∧
    (typeAll { cfg with fixedKarOrder := true } [[k1], [k2]] (start b.toList)).pending = none ∧
    (typeAll { cfg with fixedKarOrder := false } [[k1], [k2]] (start b.toList)).buffer =
      b.toList ++ [indep k1, indep k2] := by decide +kernel

/-- the single-key fact evaluated: ূ after `!` gives `!ঊ` in both settings -/
example :
    (run { testCfg with fixedKarOrder := true } "!" ["ূ"]).buffer = "!ঊ".toList ∧
    (run { testCfg with fixedKarOrder := false } "!" ["ূ"]).buffer = "!ঊ".toList := by decide +kernel

/-- `waiting_sign_lost_before_sign` is not vacuous: its hypotheses hold after ক (and with automatic
    vowel forming off, on an empty text) -/
example :
    ((testCfg.fixedVowel && vowelForming (start "ক".toList).buffer) = false ∧
      (start "ক".toList).buffer.getLast? ≠ some cHasanta ∧ twoPart (start "ক".toList).rbuf cAAKar = false) ∧
    (run { fixedVowel := false, fixedKarOrder := true } "" ["ি", "া"]).buffer = "া".toList ∧
    (run { fixedVowel := false, fixedKarOrder := false } "" ["ি", "া"]).buffer = "িা".toList := by decide +kernel

end Riti.C14Signs
