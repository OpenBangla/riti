/-
Props/BijoySamplesDict2 — GENERATED by tools/bijoy_samples.py: the Lean model `Riti.bijoy` reproduces the REAL crate's
`poriborton::bijoy2000::unicode_to_bijoy` on every 500th word of data/dictionary.json (BijoySamplesDict) and on
hand-picked hard cases (BijoySamples: the crate's own tests, reph, ra-fola, ya-fola, conjunct + front kar, two-part kars, chandrabindu, hasanta + ZWNJ/ZWJ, digits,
punctuation, curly quotes, ASCII pass-through, unmapped code points, the five panicking code points).
The expected values were printed by the crate itself (tools/bijoy_pairs_src).  Each line is checked by the kernel.
-/
import RitiModel.Lemmas.BijoyFast
namespace Riti.BijoySamplesDict2
open Riti Riti.Bijoy

example : bijoy "নিষাদ".toList = .ok "wblv`".toList := by apply bijoy_fast; decide +kernel
example : bijoy "নেংচো".toList = .ok "†bs‡Pv".toList := by apply bijoy_fast; decide +kernel
example : bijoy "নোয়াচ্ছিলি".toList = .ok "†bvqvw”Qwj".toList := by apply bijoy_fast; decide +kernel
example : bijoy "নবকল্লোল".toList = .ok "beK‡j−vj".toList := by apply bijoy_fast; decide +kernel
example : bijoy "নড়াইলেন".toList = .ok "bovB‡jb".toList := by apply bijoy_fast; decide +kernel
example : bijoy "চুক্তিবদ্ধ".toList = .ok "Pzw³e×".toList := by apply bijoy_fast; decide +kernel
example : bijoy "চাটিতেছিল".toList = .ok "PvwU‡ZwQj".toList := by apply bijoy_fast; decide +kernel
example : bijoy "চাবকাইয়াছিস".toList = .ok "PveKvBqvwQm".toList := by apply bijoy_fast; decide +kernel
example : bijoy "চালনা".toList = .ok "Pvjbv".toList := by apply bijoy_fast; decide +kernel
example : bijoy "চিনাইয়াছে".toList = .ok "wPbvBqv‡Q".toList := by apply bijoy_fast; decide +kernel
example : bijoy "চিমসাইতাম".toList = .ok "wPgmvBZvg".toList := by apply bijoy_fast; decide +kernel
example : bijoy "চেংঝোলা".toList = .ok "†Ps‡Svjv".toList := by apply bijoy_fast; decide +kernel
example : bijoy "চেয়েছিল".toList = .ok "†P‡qwQj".toList := by apply bijoy_fast; decide +kernel
example : bijoy "চৌচালি".toList = .ok "†PŠPvwj".toList := by apply bijoy_fast; decide +kernel
example : bijoy "চণ্ডবিক্রম".toList = .ok "PÊweµg".toList := by apply bijoy_fast; decide +kernel
example : bijoy "চুবনি".toList = .ok "Pzewb".toList := by apply bijoy_fast; decide +kernel
example : bijoy "চরেছিলে".toList = .ok "P‡iwQ‡j".toList := by apply bijoy_fast; decide +kernel
example : bijoy "চলতিবলতি".toList = .ok "PjwZejwZ".toList := by apply bijoy_fast; decide +kernel
example : bijoy "চুয়েট".toList = .ok "Pz‡qU".toList := by apply bijoy_fast; decide +kernel
example : bijoy "থামাস".toList = .ok "_vgvm".toList := by apply bijoy_fast; decide +kernel
example : bijoy "থেবড়াইয়াছিলে".toList = .ok "†_eovBqvwQ‡j".toList := by apply bijoy_fast; decide +kernel
example : bijoy "এইড".toList = .ok "GBW".toList := by apply bijoy_fast; decide +kernel
example : bijoy "একহাঁটু".toList = .ok "GKnvuUz".toList := by apply bijoy_fast; decide +kernel
example : bijoy "এসিড".toList = .ok "GwmW".toList := by apply bijoy_fast; decide +kernel
example : bijoy "ধান্যপঞ্চক".toList = .ok "avb¨cÂK".toList := by apply bijoy_fast; decide +kernel
example : bijoy "ধেবড়াবার".toList = .ok "†aeovevi".toList := by apply bijoy_fast; decide +kernel
example : bijoy "ধনদাত্রী".toList = .ok "ab`vÎx".toList := by apply bijoy_fast; decide +kernel
example : bijoy "ধরাইব".toList = .ok "aivBe".toList := by apply bijoy_fast; decide +kernel
example : bijoy "ধূলিধ্বজ".toList = .ok "a~wjaŸR".toList := by apply bijoy_fast; decide +kernel
example : bijoy "অকূলদরিয়া".toList = .ok "AK‚j`wiqv".toList := by apply bijoy_fast; decide +kernel
example : bijoy "অঙ্গসংস্থান".toList = .ok "A½ms¯’vb".toList := by apply bijoy_fast; decide +kernel
example : bijoy "অ্যালবাম".toList = .ok "A¨vjevg".toList := by apply bijoy_fast; decide +kernel
example : bijoy "অধঃকৃত".toList = .ok "AatK…Z".toList := by apply bijoy_fast; decide +kernel
example : bijoy "অনিয়ম".toList = .ok "Awbqg".toList := by apply bijoy_fast; decide +kernel
example : bijoy "অন্নদাচরণ".toList = .ok "Abœ`vPiY".toList := by apply bijoy_fast; decide +kernel
example : bijoy "অপবাদকারী".toList = .ok "Acev`Kvix".toList := by apply bijoy_fast; decide +kernel
example : bijoy "অবোলা".toList = .ok "A‡evjv".toList := by apply bijoy_fast; decide +kernel
example : bijoy "অভিসার".toList = .ok "Awfmvi".toList := by apply bijoy_fast; decide +kernel
example : bijoy "অর্থপ্রসারণ".toList = .ok "A_©cÖmviY".toList := by apply bijoy_fast; decide +kernel
example : bijoy "অশ্রুহীন".toList = .ok "Akª“nxb".toList := by apply bijoy_fast; decide +kernel
example : bijoy "অসম্ভ্রান্ত".toList = .ok "Am¤£vš—".toList := by apply bijoy_fast; decide +kernel
example : bijoy "ঠকিয়াছি".toList = .ok "VwKqvwQ".toList := by apply bijoy_fast; decide +kernel
example : bijoy "ঠাসতেন".toList = .ok "Vvm‡Zb".toList := by apply bijoy_fast; decide +kernel
example : bijoy "ঠেঙাচ্ছ".toList = .ok "†VOv”Q".toList := by apply bijoy_fast; decide +kernel
example : bijoy "ঠুনকা".toList = .ok "VzbKv".toList := by apply bijoy_fast; decide +kernel
example : bijoy "ইন্ডিপেনডেন্ট".toList = .ok "BwÛ‡cb‡W›U".toList := by apply bijoy_fast; decide +kernel
example : bijoy "খইচড়া".toList = .ok "LBPov".toList := by apply bijoy_fast; decide +kernel
example : bijoy "খাত".toList = .ok "LvZ".toList := by apply bijoy_fast; decide +kernel
example : bijoy "খারিজ".toList = .ok "LvwiR".toList := by apply bijoy_fast; decide +kernel
example : bijoy "খেঁকাইতেছিলে".toList = .ok "†LuKvB‡ZwQ‡j".toList := by apply bijoy_fast; decide +kernel
example : bijoy "খেপিয়েছিলেন".toList = .ok "†Lwc‡qwQ‡jb".toList := by apply bijoy_fast; decide +kernel
example : bijoy "খোদাইকর্ম".toList = .ok "†Lv`vBKg©".toList := by apply bijoy_fast; decide +kernel
example : bijoy "খুঁজবো".toList = .ok "LyuR‡ev".toList := by apply bijoy_fast; decide +kernel
example : bijoy "খুদিয়াছিল".toList = .ok "Lyw`qvwQj".toList := by apply bijoy_fast; decide +kernel
example : bijoy "খুলিয়াছিলাম".toList = .ok "LywjqvwQjvg".toList := by apply bijoy_fast; decide +kernel
example : bijoy "খুঁড়বি".toList = .ok "Lyuowe".toList := by apply bijoy_fast; decide +kernel
example : bijoy "ঘামিস".toList = .ok "Nvwgm".toList := by apply bijoy_fast; decide +kernel
example : bijoy "ঘেরাচ্ছিলি".toList = .ok "†Nivw”Qwj".toList := by apply bijoy_fast; decide +kernel
example : bijoy "ঘটাইল".toList = .ok "NUvBj".toList := by apply bijoy_fast; decide +kernel
example : bijoy "ঘনিষ্ঠভাবে".toList = .ok "Nwbôfv‡e".toList := by apply bijoy_fast; decide +kernel
example : bijoy "ঘুরল".toList = .ok "Nyij".toList := by apply bijoy_fast; decide +kernel
example : bijoy "উইকিসংযোগ".toList = .ok "DBwKms‡hvM".toList := by apply bijoy_fast; decide +kernel
example : bijoy "উঠিলি".toList = .ok "DwVwj".toList := by apply bijoy_fast; decide +kernel
example : bijoy "উৎসারণ".toList = .ok "DrmviY".toList := by apply bijoy_fast; decide +kernel
example : bijoy "উন্মাদিত".toList = .ok "Db¥vw`Z".toList := by apply bijoy_fast; decide +kernel
example : bijoy "উপমহাদেশীয়".toList = .ok "Dcgnv‡`kxq".toList := by apply bijoy_fast; decide +kernel
example : bijoy "উল্টালে".toList = .ok "Dëv‡j".toList := by apply bijoy_fast; decide +kernel
example : bijoy "মউচাক".toList = .ok "gDPvK".toList := by apply bijoy_fast; decide +kernel
example : bijoy "মাই".toList = .ok "gvB".toList := by apply bijoy_fast; decide +kernel
example : bijoy "মাঙ্গলুম".toList = .ok "gv½jyg".toList := by apply bijoy_fast; decide +kernel
example : bijoy "মাথাগোঁজা".toList = .ok "gv_v‡MvuRv".toList := by apply bijoy_fast; decide +kernel
example : bijoy "মাপছিলে".toList = .ok "gvcwQ‡j".toList := by apply bijoy_fast; decide +kernel
example : bijoy "মাহি".toList = .ok "gvwn".toList := by apply bijoy_fast; decide +kernel
example : bijoy "মিতাক্ষর".toList = .ok "wgZv¶i".toList := by apply bijoy_fast; decide +kernel
example : bijoy "মিশনারিসুলভ".toList = .ok "wgkbvwimyjf".toList := by apply bijoy_fast; decide +kernel
example : bijoy "মেখলাবৃত".toList = .ok "†gLjve„Z".toList := by apply bijoy_fast; decide +kernel
example : bijoy "মেলতুম".toList = .ok "†gjZzg".toList := by apply bijoy_fast; decide +kernel
example : bijoy "মোস্তাফি".toList = .ok "†gv¯—vwd".toList := by apply bijoy_fast; decide +kernel
example : bijoy "মজিয়াছিলাম".toList = .ok "gwRqvwQjvg".toList := by apply bijoy_fast; decide +kernel
example : bijoy "মুতাইলি".toList = .ok "gyZvBwj".toList := by apply bijoy_fast; decide +kernel
example : bijoy "মুদ্রণপদ্ধতি".toList = .ok "gy`ªYc×wZ".toList := by apply bijoy_fast; decide +kernel
example : bijoy "মন্দচারি".toList = .ok "g›`Pvwi".toList := by apply bijoy_fast; decide +kernel
example : bijoy "মূর্ধাভিষিক্ত".toList = .ok "g~a©vwfwl³".toList := by apply bijoy_fast; decide +kernel
example : bijoy "মুষড়ানো".toList = .ok "gylov‡bv".toList := by apply bijoy_fast; decide +kernel
example : bijoy "মহোৎসাহ".toList = .ok "g‡nvrmvn".toList := by apply bijoy_fast; decide +kernel
example : bijoy "ডাইরেক্টর".toList = .ok "WvB‡i±i".toList := by apply bijoy_fast; decide +kernel
example : bijoy "ডিঙ্গাইতেছি".toList = .ok "wW½vB‡ZwQ".toList := by apply bijoy_fast; decide +kernel
example : bijoy "ডেস্কটপ".toList = .ok "†W¯‹Uc".toList := by apply bijoy_fast; decide +kernel
example : bijoy "ডরালেন".toList = .ok "Wiv‡jb".toList := by apply bijoy_fast; decide +kernel
example : bijoy "শুঁকচ্ছিলি".toList = .ok "ïuKw”Qwj".toList := by apply bijoy_fast; decide +kernel
example : bijoy "শঙ্কাপ্রাপ্ত".toList = .ok "k¼vcÖvß".toList := by apply bijoy_fast; decide +kernel
example : bijoy "শালিক".toList = .ok "kvwjK".toList := by apply bijoy_fast; decide +kernel
example : bijoy "শিক্ষালাভ".toList = .ok "wk¶vjvf".toList := by apply bijoy_fast; decide +kernel
example : bijoy "শিশুকাল".toList = .ok "wkïKvj".toList := by apply bijoy_fast; decide +kernel
example : bijoy "শোকানল".toList = .ok "†kvKvbj".toList := by apply bijoy_fast; decide +kernel
example : bijoy "শ্যামায়মান".toList = .ok "k¨vgvqgvb".toList := by apply bijoy_fast; decide +kernel
example : bijoy "শুধরবো".toList = .ok "ïai‡ev".toList := by apply bijoy_fast; decide +kernel
example : bijoy "শুভানন".toList = .ok "ïfvbb".toList := by apply bijoy_fast; decide +kernel
example : bijoy "শ্রবণসুখ".toList = .ok "kªeYmyL".toList := by apply bijoy_fast; decide +kernel
example : bijoy "লওহ".toList = .ok "jIn".toList := by apply bijoy_fast; decide +kernel
example : bijoy "লাগাইবার".toList = .ok "jvMvBevi".toList := by apply bijoy_fast; decide +kernel
example : bijoy "লায়ন".toList = .ok "jvqb".toList := by apply bijoy_fast; decide +kernel
example : bijoy "লেখি".toList = .ok "†jwL".toList := by apply bijoy_fast; decide +kernel
example : bijoy "লেলিয়েছিলুম".toList = .ok "†jwj‡qwQjyg".toList := by apply bijoy_fast; decide +kernel
example : bijoy "লটকাতাম".toList = .ok "jUKvZvg".toList := by apply bijoy_fast; decide +kernel
example : bijoy "লুফেছিলি".toList = .ok "jy‡dwQwj".toList := by apply bijoy_fast; decide +kernel
example : bijoy "ওকালত".toList = .ok "IKvjZ".toList := by apply bijoy_fast; decide +kernel
example : bijoy "ওলটায়".toList = .ok "IjUvq".toList := by apply bijoy_fast; decide +kernel
example : bijoy "আওটালুম".toList = .ok "AvIUvjyg".toList := by apply bijoy_fast; decide +kernel
example : bijoy "আঁকলেম".toList = .ok "AvuK‡jg".toList := by apply bijoy_fast; decide +kernel
example : bijoy "আঁচাইয়াছিল".toList = .ok "AvuPvBqvwQj".toList := by apply bijoy_fast; decide +kernel
example : bijoy "আঞ্চলিক".toList = .ok "AvÂwjK".toList := by apply bijoy_fast; decide +kernel
example : bijoy "আত্মারাম".toList = .ok "AvÍvivg".toList := by apply bijoy_fast; decide +kernel
example : bijoy "আনকালেক্টেড".toList = .ok "AvbKv‡j‡±W".toList := by apply bijoy_fast; decide +kernel
example : bijoy "আফ্রিকাবাসী".toList = .ok "Avwd«Kvevmx".toList := by apply bijoy_fast; decide +kernel
example : bijoy "আর্যদেব".toList = .ok "Avh©‡`e".toList := by apply bijoy_fast; decide +kernel
example : bijoy "আসঙ্গলিপ্সা".toList = .ok "Avm½wjáv".toList := by apply bijoy_fast; decide +kernel
example : bijoy "ভুখা".toList = .ok "fzLv".toList := by apply bijoy_fast; decide +kernel
example : bijoy "ভাগ্যহীনতা".toList = .ok "fvM¨nxbZv".toList := by apply bijoy_fast; decide +kernel
example : bijoy "ভাজেন".toList = .ok "fv‡Rb".toList := by apply bijoy_fast; decide +kernel
example : bijoy "ভাববো".toList = .ok "fve‡ev".toList := by apply bijoy_fast; decide +kernel
example : bijoy "ভাঁড়াইতাম".toList = .ok "fvuovBZvg".toList := by apply bijoy_fast; decide +kernel
example : bijoy "ভিড়িবে".toList = .ok "wfwo‡e".toList := by apply bijoy_fast; decide +kernel
example : bijoy "ভেঙিয়েছিস".toList = .ok "†fwO‡qwQm".toList := by apply bijoy_fast; decide +kernel
example : bijoy "ভোগালেন".toList = .ok "†fvMv‡jb".toList := by apply bijoy_fast; decide +kernel
example : bijoy "ভূতাবিষ্ট".toList = .ok "f‚Zvweó".toList := by apply bijoy_fast; decide +kernel
example : bijoy "ভ্রূণজীব".toList = .ok "åƒYRxe".toList := by apply bijoy_fast; decide +kernel
example : bijoy "ভড়কেছিলে".toList = .ok "fo‡KwQ‡j".toList := by apply bijoy_fast; decide +kernel
example : bijoy "রগড়াইবার".toList = .ok "iMovBevi".toList := by apply bijoy_fast; decide +kernel
example : bijoy "রাগমুখ".toList = .ok "ivMgyL".toList := by apply bijoy_fast; decide +kernel
example : bijoy "রাঢ়ী".toList = .ok "ivXx".toList := by apply bijoy_fast; decide +kernel
example : bijoy "রিক্রুটমেন্ট".toList = .ok "wiµyU‡g›U".toList := by apply bijoy_fast; decide +kernel
example : bijoy "রোখ".toList = .ok "†ivL".toList := by apply bijoy_fast; decide +kernel
example : bijoy "রটাবার".toList = .ok "iUvevi".toList := by apply bijoy_fast; decide +kernel
example : bijoy "রূপপ্রাপ্ত".toList = .ok "iƒccÖvß".toList := by apply bijoy_fast; decide +kernel
example : bijoy "রহিত".toList = .ok "iwnZ".toList := by apply bijoy_fast; decide +kernel
example : bijoy "পাকাইয়াছিলে".toList = .ok "cvKvBqvwQ‡j".toList := by apply bijoy_fast; decide +kernel
example : bijoy "পাছড়াচ্ছি".toList = .ok "cvQovw”Q".toList := by apply bijoy_fast; decide +kernel
example : bijoy "পাতেপাতে".toList = .ok "cv‡Zcv‡Z".toList := by apply bijoy_fast; decide +kernel
example : bijoy "পারিয়েছিলেম".toList = .ok "cvwi‡qwQ‡jg".toList := by apply bijoy_fast; decide +kernel
example : bijoy "পাশরন".toList = .ok "cvkib".toList := by apply bijoy_fast; decide +kernel
example : bijoy "পিটাইব".toList = .ok "wcUvBe".toList := by apply bijoy_fast; decide +kernel
example : bijoy "পিষছেন".toList = .ok "wcl‡Qb".toList := by apply bijoy_fast; decide +kernel
example : bijoy "পেজ".toList = .ok "†cR".toList := by apply bijoy_fast; decide +kernel
example : bijoy "পোঁ".toList = .ok "†cvu".toList := by apply bijoy_fast; decide +kernel
example : bijoy "পুঁছাইতেছি".toList = .ok "cyuQvB‡ZwQ".toList := by apply bijoy_fast; decide +kernel
example : bijoy "পঞ্চালী".toList = .ok "cÂvjx".toList := by apply bijoy_fast; decide +kernel
example : bijoy "পট্টবস্ত্র".toList = .ok "cÆe¯¿".toList := by apply bijoy_fast; decide +kernel
example : bijoy "পথযাত্রা".toList = .ok "c_hvÎv".toList := by apply bijoy_fast; decide +kernel
example : bijoy "প্রকৃতিবিষয়ক".toList = .ok "cÖK…wZwelqK".toList := by apply bijoy_fast; decide +kernel
example : bijoy "প্রান্তবিন্দু".toList = .ok "cÖvš—we›`y".toList := by apply bijoy_fast; decide +kernel
example : bijoy "পরিবর্তনকারী".toList = .ok "cwieZ©bKvix".toList := by apply bijoy_fast; decide +kernel
example : bijoy "প্রেরণাদান".toList = .ok "†cÖiYv`vb".toList := by apply bijoy_fast; decide +kernel
example : bijoy "প্রতিকূলগামী".toList = .ok "cÖwZK‚jMvgx".toList := by apply bijoy_fast; decide +kernel
example : bijoy "পরদুঃখ".toList = .ok "ci`ytL".toList := by apply bijoy_fast; decide +kernel
example : bijoy "পরবশতা".toList = .ok "ciekZv".toList := by apply bijoy_fast; decide +kernel
example : bijoy "প্রসাধনকারী".toList = .ok "cÖmvabKvix".toList := by apply bijoy_fast; decide +kernel
example : bijoy "পশারী".toList = .ok "ckvix".toList := by apply bijoy_fast; decide +kernel
example : bijoy "পুড়াইতাম".toList = .ok "cyovBZvg".toList := by apply bijoy_fast; decide +kernel

/- 159 samples -/
end Riti.BijoySamplesDict2
