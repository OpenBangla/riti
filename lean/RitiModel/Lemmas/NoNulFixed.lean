/-
Lemmas/NoNulFixed — NUL-freedom, part 2: the fixed-layout method (`process_key_value`, the
dictionary candidates, `create_suggestion`, backspace) and the `Method` dispatch (`step`).
-/
import RitiModel.Lemmas.NoNul
import RitiModel.Lemmas.FixedCore
import RitiModel.Lemmas.Chars
import RitiModel.Lemmas.FixedSuggest
import RitiModel.Lemmas.PhoneticStep
namespace Riti

def PendOk (p : Option Char) : Prop := ∀ c, p = some c → c ≠ '\x00'

/-- the invariant of the fixed method: composition buffer, raw keys, pending sign and the list
    last built are NUL-free -/
structure NoNulF (s : FState) : Prop where
  rbuf : NoNul s.rbuf
  rtyped : NoNul s.rtyped
  pending : PendOk s.pending
  suggestions : RanksNoNul s.suggestions

theorem pendOk_none : PendOk none := nofun

theorem noNulF_init : NoNulF {} := ⟨noNul_nil, noNul_nil, pendOk_none, ranksNoNul_nil⟩

/-! ### `process_key_value` -/

theorem pushStr_noNul {rbuf v : Str} (hb : NoNul rbuf) (hv : NoNul v) : NoNul (pushStr rbuf v) :=
  noNul_append.mpr ⟨noNul_reverse.mpr hv, hb⟩

theorem karToVowel_ne_nul {c v : Char} (h : karToVowel c = some v) : v ≠ '\x00' :=
  (by decide : ∀ p ∈ karVowels, p.2 ≠ '\x00') _ (karToVowel_mem h)

theorem toPending_ok (c : Char) : PendOk (toPending c) := by
  rintro d hd rfl
  unfold toPending at hd
  split at hd
  · next hc => cases hd; exact absurd hc (by decide)
  · cases hd

theorem insertOldStyleReph_noNul {rbuf : Str} (h : NoNul rbuf) : NoNul (insertOldStyleReph rbuf) := by
  have h2 : NoNul [cHasanta, cR] := (noNul_singleton.mpr (by decide)).cons (by decide)
  unfold insertOldStyleReph
  exact ite_ind (fun _ => noNul_append.mpr ⟨noNul_append.mpr ⟨h.take _, h2⟩, h.drop _⟩)
    (fun _ => noNul_append.mpr ⟨h2, h⟩)

/-- a sign puts its independent vowel, or nothing, in front of NUL-free text -/
theorem karToVowel_cons_noNul {k : Char} {r d : Str} (hr : NoNul r) (hd : NoNul d) :
    NoNul (match karToVowel k with | some v => v :: r | none => d) := by
  cases h : karToVowel k with
  | none => exact hd
  | some v => exact hr.cons (karToVowel_ne_nul h)

theorem karTail_noNul (cfg : Cfg) {rbuf : Str} (rmc : Char) {character : Char} (hb : NoNul rbuf)
    (hc : character ≠ '\x00') : NoNul (karTail cfg rbuf rmc character) := by
  have hZ : cZWNJ ≠ '\x00' := by decide
  have hCh : cChandra ≠ '\x00' := by decide
  unfold karTail
  exact ite_ind (fun _ => karToVowel_cons_noNul hb hb) fun _ =>
    ite_ind (fun _ => ((hb.drop 1).cons hc).cons hCh) fun _ =>
    ite_ind (fun _ => karToVowel_cons_noNul (hb.drop 1) hb) fun _ =>
    ite_ind (fun _ => ite_ind (fun _ => ((hb.cons hZ).cons hc)) (fun _ => hb.cons hc)) fun _ => hb.cons hc

def NoNulE (e : Str × Option Char) : Prop := NoNul e.1 ∧ PendOk e.2

/-- the value is slipped under the last code point -/
theorem slipUnder_noNul {l value : Str} {pending : Option Char} {d : Str × Option Char} :
    NoNul l → PendOk pending → NoNul value → NoNulE d →
    NoNulE (match l with | kar :: rest => (kar :: pushStr rest value, pending) | [] => d) := by
  intro hl hp hv hd
  cases l with
  | nil => exact hd
  | cons k r => exact ⟨(pushStr_noNul (noNul_cons.mp hl).2 hv).cons (noNul_cons.mp hl).1, hp⟩

section
variable {rbuf value : Str} {pending : Option Char} (hb : NoNul rbuf) (hp : PendOk pending) (hv : NoNul value)
include hb hp hv

theorem pushValue_noNul (cfg : Cfg) : NoNulE (pushValue cfg rbuf pending value) := by
  have h := pushStr_noNul hb hv
  unfold pushValue
  refine ite_ind (fun _ => ?_) (fun _ => ⟨h, hp⟩)
  cases pending with
  | none => exact ⟨h, hp⟩
  | some lsk => exact ite_ind (fun _ => ⟨h, hp⟩) (fun _ => ⟨h.cons (hp lsk rfl), pendOk_none⟩)

theorem pkvZofola_noNul (cfg : Cfg) : NoNulE (pkvZofola cfg rbuf pending value) := by
  have hrb : NoNul (zwjBefore rbuf) := ite_ind (fun _ => hb.cons (by decide)) (fun _ => hb)
  have hpu : NoNulE (pushStr (zwjBefore rbuf) value, pending) := ⟨pushStr_noNul hrb hv, hp⟩
  exact ite_ind (fun _ => slipUnder_noNul hrb hp hv hpu) (fun _ => hpu)

omit hv in
theorem pkvKar_noNul {again : Str → Str × Option Char} (hagain : ∀ rb, NoNul rb → NoNulE (again rb)) (cfg : Cfg)
    {character : Char} (hc : character ≠ '\x00') : NoNulE (pkvKar again cfg rbuf pending character) := by
  have hdrop := hb.drop 1
  have hk := karTail_noNul cfg (rbuf.headD '\x00') hb hc
  unfold pkvKar
  refine ite_ind (fun _ => ?_) fun _ => ⟨hk, hp⟩
  refine ite_ind (fun _ => ⟨hb, toPending_ok _⟩) fun _ =>
    ite_ind (fun _ => ⟨hdrop.cons (ite_ind (Q := (· ≠ '\x00')) (fun _ => by decide) (fun _ => by decide)), hp⟩) fun _ => ?_
  cases pending with
  | none => exact ⟨hk, hp⟩
  | some lsk =>
    exact ite_ind (fun _ => ⟨karTail_noNul cfg _ ((hdrop.cons (hp lsk rfl)).cons (by decide)) hc, pendOk_none⟩)
      fun _ => hagain _ (ite_ind (fun _ => karToVowel_cons_noNul hb hb) (fun _ => hb))

theorem pkvOther_noNul (cfg : Cfg) {character : Char} (hc : character ≠ '\x00') :
    NoNulE (pkvOther cfg rbuf pending value character) := by
  have hdrop := hb.drop 1
  unfold pkvOther
  exact ite_ind (fun _ => ⟨hb.cons (by decide), hp⟩) fun _ =>
    ite_ind (fun _ => ⟨hdrop.cons (by decide), hp⟩) fun _ =>
    ite_ind (fun _ => ite_ind (fun _ => ⟨hdrop.cons hc, toPending_ok _⟩) fun _ => slipUnder_noNul hb hp hv ⟨hb, hp⟩) fun _ =>
    ite_ind (fun _ => ⟨hdrop.cons (by decide), hp⟩) fun _ => pushValue_noNul hb hp hv cfg

/-- `process_key_value` keeps text and waiting sign NUL-free: it only moves characters of the text, pushes
    characters of the (NUL-free) layout value, or constants; the `unwrap_or_default()` U+0000 of an empty
    text is only compared, never pushed -/
theorem pkvCore_noNul {again : Str → Str × Option Char} (hagain : ∀ rb, NoNul rb → NoNulE (again rb)) (cfg : Cfg) :
    NoNulE (pkvCore again cfg rbuf pending value) := by
  unfold pkvCore
  refine ite_ind (fun _ => pkvZofola_noNul hb hp hv cfg) fun _ =>
    ite_ind (fun _ => ⟨insertOldStyleReph_noNul hb, hp⟩) fun _ => ?_
  cases hh : value.head? with
  | none => exact pushValue_noNul hb hp hv cfg
  | some character =>
    have hc : character ≠ '\x00' := hv.mem (List.mem_of_head? hh)
    exact ite_ind (fun _ => pkvKar_noNul hb hp hagain cfg hc) fun _ => pkvOther_noNul hb hp hv cfg hc
end

theorem processKeyValue_noNul (cfg : Cfg) {value : Str} (hv : NoNul value) {s : FState} (hs : NoNulF s) :
    NoNulF (processKeyValue cfg s value) := by
  have := pkvCore_noNul hs.rbuf hs.pending hv
    (fun rb hrb => pkvCore_noNul (again := (·, none)) hrb pendOk_none hv (fun _ h => ⟨h, pendOk_none⟩) cfg) cfg
  rw [processKeyValue_eq]
  exact ⟨this.1, hs.rtyped, this.2, hs.suggestions⟩

/-! ### keys, backspace -/

/-- every value of the parsed layout file is NUL-free -/
def NoNulLayout (l : Layout) : Prop := ∀ k v, l k = some v → NoNul v

theorem nonEmpty_some {v : Option (List Char)} {x : List Char} (h : nonEmpty v = some x) : v = some x := by
  unfold nonEmpty at h
  split at h
  · cases h
  · exact h

theorem getCharForKey_noNul {layout : Layout} (hl : NoNulLayout layout) {key : Nat} {mods : Bool × Bool}
    {numpad : Bool} {v : Str} (h : getCharForKey layout key mods numpad = some v) : NoNul v := by
  unfold getCharForKey at h
  split at h
  · cases h
  · exact hl _ _ (nonEmpty_some h)
  · split at h
    · exact hl _ _ (nonEmpty_some h)
    · cases h

theorem fKeyState_noNul {layout : Layout} (hl : NoNulLayout layout) (cfg : Cfg) {s s' : FState} (hs : NoNulF s)
    {key modifier : Nat} (h : fKeyState layout cfg s key modifier = some s') : NoNulF s' := by
  rw [fKeyState_eq] at h
  obtain ⟨value, hval, rfl⟩ := Option.map_eq_some_iff.mp h
  have hp := processKeyValue_noNul cfg (getCharForKey_noNul hl hval) hs
  refine ⟨hp.rbuf, ?_, hp.pending, hp.suggestions⟩
  unfold keyTyped
  refine ite_ind (fun _ => noNul_nil) fun _ => ite_ind (fun _ => ?_) (fun _ => hp.rtyped)
  cases hk : keycodeToChar key with
  | none => exact hp.rtyped
  | some ch => exact hp.rtyped.cons (keycodeToChar_ne_nul hk)

theorem fBackspaceState_noNul {s : FState} (hs : NoNulF s) (ctrl : Bool) : NoNulF (fBackspaceState s ctrl).1 := by
  obtain ⟨hr, hp, -, ht, hg⟩ := fBackspaceState_spec s ctrl
  refine ⟨?_, ?_, hp ▸ pendOk_none, hg ▸ hs.suggestions⟩
  · rw [hr]; exact ite_ind (fun _ => noNul_nil) fun _ => ite_ind (fun _ => hs.rbuf) fun _ => hs.rbuf.drop 1
  · rw [ht]; exact ite_ind (fun _ => hs.rtyped.drop 1) fun _ => ite_ind (fun _ => noNul_nil) fun _ => hs.rtyped

theorem fClear_noNul {s : FState} (hs : NoNulF s) : NoNulF (fClear s) :=
  ⟨noNul_nil, noNul_nil, pendOk_none, hs.suggestions⟩

theorem NoNulF.buffer {s : FState} (hs : NoNulF s) : NoNul s.buffer := noNul_reverse.mpr hs.rbuf
theorem NoNulF.typed {s : FState} (hs : NoNulF s) : NoNul s.typed := noNul_reverse.mpr hs.rtyped

/-! ### the dictionary candidates of the fixed method -/

/-- `create_dictionary_suggestion`, for ANY ordering function that permutes its input: the instance
    `P c := c ≠ '\x00'` of Lemmas/Provenance, source by source -/
theorem fDictSuggestion_noNul {w : World} (he : NoNulEnv w.env) (hsort : ∀ l, (w.sorter l).Perm l) (cfg : Cfg)
    {s : FState} (hs : NoNulF s) :
    NoNulF (fDictSuggestion w cfg s).1 ∧ NoNulSugg (fDictSuggestion w cfg s).2 := by
  have hl : RanksNoNul (fDictSuggestion w cfg s).1.suggestions := fun r hr =>
    (fDictSuggestion_all hsort (fun t s h => (he.table t s h).all) (by decide) (fun _ k v h => (he.emo k v h).all)
      (fun _ k l h s hs => (he.emoBn k l h s hs).all) (fun _ => by decide) hs.buffer.all (fun _ => hs.typed.all)
      r hr).noNul
  refine ⟨⟨hs.rbuf, hs.rtyped, hs.pending, hl⟩, hs.buffer, ?_⟩
  intro t ht
  obtain ⟨r, hr, rfl⟩ := List.mem_map.mp ht
  exact hl r hr

theorem fLonely_noNul (cfg : Cfg) {s : FState} (hs : NoNulF s) : NoNulSugg (fLonely cfg s) := hs.buffer

theorem fCreateSuggestion_noNul {w : World} (he : NoNulEnv w.env) (hsort : ∀ l, (w.sorter l).Perm l) (cfg : Cfg)
    {s : FState} (hs : NoNulF s) :
    NoNulF (fCreateSuggestion w cfg s).1 ∧ NoNulSugg (fCreateSuggestion w cfg s).2 := by
  unfold fCreateSuggestion
  split
  · exact fDictSuggestion_noNul he hsort cfg hs
  · exact ⟨hs, fLonely_noNul cfg hs⟩

theorem fCurrentSuggestion_noNul (cfg : Cfg) {s : FState} (hs : NoNulF s) : NoNulSugg (fCurrentSuggestion cfg s) := by
  unfold fCurrentSuggestion
  split
  · split
    · refine ⟨hs.buffer, ?_⟩
      intro t ht
      obtain ⟨r, hr, rfl⟩ := List.mem_map.mp ht
      exact hs.suggestions r hr
    · exact fLonely_noNul cfg hs
  · exact noNulSugg_empty

theorem fKey_noNul {w : World} (he : NoNulEnv w.env) (hsort : ∀ l, (w.sorter l).Perm l) {layout : Layout}
    (hl : NoNulLayout layout) (cfg : Cfg) {s : FState} (hs : NoNulF s) (key modifier : Nat) :
    NoNulF (fKey w layout cfg s key modifier).1 ∧ NoNulSugg (fKey w layout cfg s key modifier).2 :=
  fKey_ind (Q := fun r => NoNulF r.1 ∧ NoNulSugg r.2) ⟨hs, fCurrentSuggestion_noNul cfg hs⟩ fun _ hk =>
    ⟨⟨fKeyState_noNul hl cfg hs hk, noNulSugg_empty⟩, fCreateSuggestion_noNul he hsort cfg (fKeyState_noNul hl cfg hs hk)⟩

theorem fBackspace_noNul {w : World} (he : NoNulEnv w.env) (hsort : ∀ l, (w.sorter l).Perm l) (cfg : Cfg)
    {s : FState} (hs : NoNulF s) (ctrl : Bool) :
    NoNulF (fBackspace w cfg s ctrl).1 ∧ NoNulSugg (fBackspace w cfg s ctrl).2 :=
  have hb := fBackspaceState_noNul hs ctrl
  fBackspace_ind (Q := fun r => NoNulF r.1 ∧ NoNulSugg r.2) (fCreateSuggestion_noNul he hsort cfg hb) ⟨hb, noNulSugg_empty⟩

/-! ### the `Method` dispatch -/

/-- the data of a world is NUL-free and its ordering function permutes -/
structure NoNulWorld (w : World) : Prop where
  env : NoNulEnv w.env
  layouts : ∀ p l, w.layouts p = some l → NoNulLayout l
  sorter : ∀ l, (w.sorter l).Perm l

/-- the invariant of a context: that of its method (and its layout, for the fixed method) -/
def NoNulCtx (c : Ctx) : Prop :=
  match c.m with
  | .phonetic s => NoNulP s
  | .fixed l s => NoNulLayout l ∧ NoNulF s

theorem mNew_noNul {w : World} (hw : NoNulWorld w) {fs : FS} (hfs : NoNulFS fs) {p : String} {m : MState}
    (h : mNew w fs p = some m) : NoNulCtx ⟨cfg, p, m⟩ := by
  obtain ⟨_, rfl⟩ | ⟨_, l, hl, rfl⟩ := mNew_cases h
  · exact pNew_noNul hfs
  · exact ⟨hw.layouts _ _ hl, noNulF_init⟩

theorem ctxNew_noNul {w : World} (hw : NoNulWorld w) {fs : FS} (hfs : NoNulFS fs) {cfg : Cfg} {p : String}
    {c : Ctx} (h : Ctx.new w fs cfg p = some c) : NoNulCtx c := by
  obtain ⟨m, hm, rfl⟩ := ctxNew_eq_some.1 h
  exact mNew_noNul hw hfs hm

/-- **one API call keeps everything NUL-free**: the context invariant survives and every text of a
    returned `Suggestion` is NUL-free — both methods, every event -/
theorem step_noNul {w : World} (hw : NoNulWorld w) {c c' : Ctx} {fs fs' : FS} {ev : Event} {o : Out}
    (hc : NoNulCtx c) (hfs : NoNulFS fs) (hev : ∀ fs2, ev = .setFs fs2 → NoNulFS fs2)
    (h : step w c fs ev = .ok (c', fs', o)) :
    NoNulCtx c' ∧ NoNulFS fs' ∧ ∀ sg, o = .sugg sg → NoNulSugg sg := by
  have none : ∀ sg, Out.unit = .sugg sg → NoNulSugg sg := nofun
  have some {sg0 : Sugg} (h0 : NoNulSugg sg0) : ∀ sg, Out.sugg sg0 = .sugg sg → NoNulSugg sg :=
    fun _ e => by cases e; exact h0
  cases hm : c.m with
  | phonetic s =>
    have hc' : NoNulP s := by simpa only [NoNulCtx, hm] using hc
    cases step_phonetic hm h with
    | key code modifier sel =>
      have := pKey_noNul hw.env c.cfg hc' code sel
      exact ⟨this.1, hfs, some this.2⟩
    | backspace ctrl =>
      have := pBackspace_noNul hw.env c.cfg hc' ctrl
      exact ⟨this.1, hfs, some this.2⟩
    | commit i s' wr hcm =>
      refine ⟨pCommit_noNul hc' hcm, ?_, none⟩
      cases wr with
      | none => exact hfs
      -- a commit writes the selections file, `NoNulFS` reads `fs.ac` only
      | some st => unfold fsWrote; exact ite_ind (fun _ => hfs) (fun _ => hfs)
    | finish => exact ⟨pFinish_noNul hc', hfs, none⟩
    | update cfg => exact ⟨pUpdate_noNul hfs hc', hfs, none⟩
    | switch cfg p m _ hn => exact ⟨mNew_noNul hw hfs hn, hfs, none⟩
    | setFs fs2 => exact ⟨hc, hev _ rfl, none⟩
  | fixed l s =>
    have hc' : NoNulLayout l ∧ NoNulF s := by simpa only [NoNulCtx, hm] using hc
    cases step_fixed hm h with
    | key code modifier sel =>
      have := fKey_noNul hw.env hw.sorter hc'.1 c.cfg hc'.2 code modifier
      exact ⟨⟨hc'.1, this.1⟩, hfs, some this.2⟩
    | backspace ctrl =>
      have := fBackspace_noNul hw.env hw.sorter c.cfg hc'.2 ctrl
      exact ⟨⟨hc'.1, this.1⟩, hfs, some this.2⟩
    | commit | finish => exact ⟨⟨hc'.1, fClear_noNul hc'.2⟩, hfs, none⟩
    | update cfg => exact ⟨hc', hfs, none⟩
    | switch cfg p m _ hn => exact ⟨mNew_noNul hw hfs hn, hfs, none⟩
    | setFs fs2 => exact ⟨hc, hev _ rfl, none⟩

end Riti
