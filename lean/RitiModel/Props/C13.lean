/-
Props/C13 — old-style reph: the reph key inserts র্ at one position of the composed text and changes
nothing else; where that position is (before the final conjunct / at the end); option off = append.
Helper lemmas live in Lemmas/Reph.  `rbuf` is the REVERSED buffer, `p` the text as the user sees it.
-/
import RitiModel.Lemmas.Reph
import RitiModel.Lemmas.FixedCore
namespace Riti.C13
open Riti Riti.Gen

/-! ## 1. Conservation: র্ is inserted at one position, nothing else changes (every buffer) -/

/-- `insert_old_style_reph` only inserts the two code points of the reph at one position of the
    (reversed) buffer — every buffer, the empty one included; nothing is lost, duplicated or reordered -/
theorem reph_conserves (rbuf : Str) : ∃ i ≤ rbuf.length,
    insertOldStyleReph rbuf = rbuf.take i ++ [cHasanta, cR] ++ rbuf.drop i := by
  unfold insertOldStyleReph
  split
  · exact ⟨_, by simpa using (rephScan_bounds rbuf 0 false false false false 0).2, rfl⟩
  · exact ⟨0, by omega, by simp⟩

/-- the same in reading order: the new text is the old text `p` with র্ inserted at some position `j` -/
theorem reph_conserves_forward (p : Str) : ∃ j ≤ p.length,
    (insertOldStyleReph p.reverse).reverse = p.take j ++ [cR, cHasanta] ++ p.drop j := by
  obtain ⟨i, _, h⟩ := reph_conserves p.reverse
  refine ⟨p.length - i, by omega, ?_⟩
  rw [h]
  simp [List.reverse_take, List.reverse_drop]

/-! ## 2. The reph key with the option on -/

/-- with old-style reph on, the reph key does `insert_old_style_reph` on the buffer and touches
    nothing else (raw keys, pending left-standing sign, suggestion list) — whatever the other options -/
theorem reph_key_state (cfg : Cfg) (hon : cfg.fixedOldReph = true) (s : FState) :
    processKeyValue cfg s rephValue = { s with rbuf := insertOldStyleReph s.rbuf } := by
  rw [processKeyValue_eq, pkvPair, pkvCore_reph hon]
  rfl

/-- with old-style reph on, the reph key changes only the buffer, by inserting র্ at one position -/
theorem reph_key_conserves (cfg : Cfg) (hon : cfg.fixedOldReph = true) (s : FState) :
    ∃ i ≤ s.rbuf.length,
      processKeyValue cfg s rephValue =
        { s with rbuf := s.rbuf.take i ++ [cHasanta, cR] ++ s.rbuf.drop i } := by
  obtain ⟨i, hi, h⟩ := reph_conserves s.rbuf
  exact ⟨i, hi, by rw [reph_key_state cfg hon, h]⟩

/-- the same in reading order: the composed text `p` becomes `p` with the key's value র্ inserted at
    one position; pending sign, raw keys and suggestion list are untouched -/
theorem reph_key_conserves_forward (cfg : Cfg) (hon : cfg.fixedOldReph = true) (s : FState) :
    ∃ j ≤ s.buffer.length,
      (processKeyValue cfg s rephValue).buffer = s.buffer.take j ++ rephValue ++ s.buffer.drop j ∧
      (processKeyValue cfg s rephValue).pending = s.pending ∧
      (processKeyValue cfg s rephValue).rtyped = s.rtyped ∧
      (processKeyValue cfg s rephValue).suggestions = s.suggestions := by
  obtain ⟨j, hj, h⟩ := reph_conserves_forward s.buffer
  refine ⟨j, hj, ?_, ?_, ?_, ?_⟩ <;> rw [reph_key_state cfg hon]
  simpa [FState.buffer, rephValue] using h

/-- a physical key press: if the layout gives the pressed key the value র্ and old-style reph is on,
    the key is consumed and the composed text becomes the old one with র্ inserted at one position
    (the pending sign is untouched; only the raw-key log may grow) -/
theorem reph_keypress_conserves (layout : Layout) (cfg : Cfg) (hon : cfg.fixedOldReph = true) (s : FState)
    (key modifier : Nat)
    (hv : getCharForKey layout key (getModifiers modifier) cfg.fixedNumpad = some rephValue) :
    ∃ s', fKeyState layout cfg s key modifier = some s' ∧ s'.pending = s.pending ∧
      ∃ j ≤ s.buffer.length, s'.buffer = s.buffer.take j ++ rephValue ++ s.buffer.drop j := by
  obtain ⟨j, hj, hb, hp, _, _⟩ := reph_key_conserves_forward cfg hon s
  rw [fKeyState_eq, hv]
  exact ⟨_, rfl, hp, j, hj, hb⟩

/-! ## 3. The reph key with the option off -/

/-- with old-style reph off the reph key appends its value র্ and changes nothing else — whatever the
    other options; in particular with old kar order on a pending left-standing sign STAYS pending
    (the value ends in hasanta), it is not flushed after the reph -/
theorem reph_off_state (cfg : Cfg) (hoff : cfg.fixedOldReph = false) (s : FState) :
    processKeyValue cfg s rephValue = { s with rbuf := cHasanta :: cR :: s.rbuf } := by
  rw [processKeyValue_eq, pkvPair,
    pkvCore_push_plain _ (by decide) (.inl hoff) (fun _ hc => by cases hc; decide), pushValue_hasanta rfl]
  rfl

/-- with old-style reph (and old kar order) off the reph key simply appends its value -/
theorem reph_off_appends (cfg : Cfg) (hoff : cfg.fixedOldReph = false) (_hko : cfg.fixedKarOrder = false)
    (s : FState) : (processKeyValue cfg s rephValue).rbuf = cHasanta :: cR :: s.rbuf := by
  rw [reph_off_state cfg hoff]

/-- … in reading order, and for any kar-order setting: the text becomes `p ++ র্` -/
theorem reph_off_appends_forward (cfg : Cfg) (hoff : cfg.fixedOldReph = false) (s : FState) :
    (processKeyValue cfg s rephValue).buffer = s.buffer ++ rephValue := by
  rw [reph_off_state cfg hoff]; simp [FState.buffer, rephValue]

/-- old kar order on, a left-standing sign pending (typed before its consonant), option off: the
    reph is appended and the sign is still pending afterwards -/
theorem reph_off_pending_kept (cfg : Cfg) (hoff : cfg.fixedOldReph = false) (s : FState) (k : Char)
    (hp : s.pending = some k) :
    (processKeyValue cfg s rephValue).rbuf = cHasanta :: cR :: s.rbuf ∧
    (processKeyValue cfg s rephValue).pending = some k := by
  rw [reph_off_state cfg hoff]; exact ⟨rfl, hp⟩

/-! ## 4. Empty buffer -/

/-- on an empty buffer `insert_old_style_reph` gives just র্ (no panic: `unwrap_or_default`) -/
theorem reph_empty : insertOldStyleReph [] = [cHasanta, cR] := by decide +kernel

/-- the reph key on an empty composition gives the text র্, with the option on or off -/
theorem reph_key_empty (cfg : Cfg) (s : FState) (he : s.rbuf = []) :
    (processKeyValue cfg s rephValue).buffer = [cR, cHasanta] := by
  cases hon : cfg.fixedOldReph with
  | true => rw [reph_key_state cfg hon, he]; simp only [FState.buffer, reph_empty]; rfl
  | false => rw [reph_off_state cfg hon, he]; rfl

/-! ## 5. Placement

Grammar (decidable, `Lemmas/Reph`): `isConjunct` = `c (্ c)*` with pure consonants `c`;
`optVowel` = zero or one `isVowel` code point (independent vowel or sign); `optChandra` = zero or
one chandrabindu.  The text is split as `pre ++ conj ++ vow ++ chn`. -/

/-- the side condition on the code point `d` just before the final conjunct under which the code
    finds the conjunct's left edge: no `d` at all, a pure consonant (previous syllable without sign),
    a chandrabindu, or a vowel/sign — the last one NOT when the syllable is consonants + chandrabindu
    without a vowel.  A hasanta is not allowed here: after a consonant it would belong to the
    conjunct (maximality), otherwise the text is ill-formed. -/
def goodBefore (pre vow chn : Str) : Bool :=
  match pre.getLast? with
  | none => true
  | some d => isPureConsonant d || d == cChandra || (isVowel d && (!vow.isEmpty || chn.isEmpty))

/-- `goodBefore` is the reading-order form of the scan's stop condition `stopsAt` -/
theorem goodBefore_stopsAt (pre vow chn : Str) :
    stopsAt (!vow.isEmpty) (!chn.isEmpty) pre.reverse = goodBefore pre vow chn := by
  simp only [stopsAt, goodBefore, List.head?_reverse]
  cases pre.getLast? <;> simp

/-- the reversed text, regrouped -/
theorem shape_reverse (pre conj : Str) {vow chn : Str} (hvow : optVowel vow = true) (hchn : optChandra chn = true) :
    (pre ++ conj ++ vow ++ chn).reverse = chn ++ vow ++ conj.reverse ++ pre.reverse := by
  simp [optVowel_reverse hvow, optChandra_reverse hchn]

/-- a text that ends in conjunct + optional vowel + optional chandrabindu lets the reph move -/
theorem moveable_of_shape (pre : Str) {conj vow chn : Str} (hconj : isConjunct conj = true) (hvow : optVowel vow = true)
    (hchn : optChandra chn = true) : isRephMoveable (pre ++ conj ++ vow ++ chn).reverse = true := by
  rw [shape_reverse pre conj hvow hchn]
  exact isRephMoveable_shape pre.reverse hchn hvow (isConjunct_reverse hconj)

/-- PARTIAL (placement): when the text ends in a (maximal) conjunct, an optional vowel (sign) and an
    optional chandrabindu, the scan moves exactly that syllable: র্ lands immediately before the conjunct and
    nothing else changes.  Excluded (hypothesis `goodBefore`) — on these the code puts the reph elsewhere,
    counter-examples below: the code point before the conjunct is (a) outside the four classes of the scan —
    ZWNJ, ZWJ, anusvara, visarga, digits, Latin … — see `reph_wrong_after_explicit_hasanta`; (b) a vowel/sign
    while the syllable is conjunct + chandrabindu without vowel — see `reph_wrong_chandra_after_vowel`; (c) a
    hasanta (ill-formed unless it belongs to the conjunct) — see `reph_wrong_orphan_hasanta`. -/
theorem reph_placement_partial (pre conj vow chn : Str) (hconj : isConjunct conj = true)
    (hvow : optVowel vow = true) (hchn : optChandra chn = true) (hpre : goodBefore pre vow chn = true) :
    (insertOldStyleReph (pre ++ conj ++ vow ++ chn).reverse).reverse =
      pre ++ [cR, cHasanta] ++ conj ++ vow ++ chn := by
  rw [shape_reverse pre conj hvow hchn,
    insertOldStyleReph_shape hchn hvow (isConjunct_reverse hconj) (by rw [goodBefore_stopsAt]; exact hpre)]
  simp [optVowel_reverse hvow, optChandra_reverse hchn]

/-- the same for the reph key (option on) on the composed text -/
theorem reph_key_placement_partial (cfg : Cfg) (hon : cfg.fixedOldReph = true) (s : FState)
    (pre conj vow chn : Str) (hs : s.buffer = pre ++ conj ++ vow ++ chn) (hconj : isConjunct conj = true)
    (hvow : optVowel vow = true) (hchn : optChandra chn = true) (hpre : goodBefore pre vow chn = true) :
    (processKeyValue cfg s rephValue).buffer = pre ++ rephValue ++ conj ++ vow ++ chn := by
  have hr : s.rbuf = (pre ++ conj ++ vow ++ chn).reverse := by
    rw [← hs, FState.buffer, List.reverse_reverse]
  rw [reph_key_state cfg hon, FState.buffer]
  simp only [hr]
  exact reph_placement_partial pre conj vow chn hconj hvow hchn hpre

/-- "the end of p otherwise", in the code's own terms: when `is_reph_moveable` says no, the reph is
    appended at the end -/
theorem reph_end_otherwise_partial (rbuf : Str) (h : isRephMoveable rbuf = false) :
    insertOldStyleReph rbuf = cHasanta :: cR :: rbuf := by
  simp [insertOldStyleReph, h]

/-- `is_reph_moveable` characterised: after dropping one trailing chandrabindu the last code point is
    a pure consonant, or it is a vowel (sign) preceded by a pure consonant -/
theorem moveable_iff (rbuf : Str) : isRephMoveable rbuf = true ↔
    (∃ c rest, dropChandra rbuf = c :: rest ∧ isPureConsonant c = true) ∨
    (∃ v c rest, dropChandra rbuf = v :: c :: rest ∧ isVowel v = true ∧ isPureConsonant c = true) :=
  isRephMoveable_iff rbuf

/-- what the reph key (option on) makes of the text `p`, in reading order -/
def rephText (p : Str) : Str := (insertOldStyleReph p.reverse).reverse

/-- the conjunct that follows `pre` is maximal: `pre` does not end in "pure consonant, hasanta" -/
def conjMaximal (pre : Str) : Bool := rMaximal pre.reverse

/-- `is_reph_moveable` says yes exactly when the text ends in conjunct + optional vowel + optional
    chandrabindu; the conjunct can then be chosen maximal -/
theorem moveable_iff_shape (p : Str) : isRephMoveable p.reverse = true ↔
    ∃ pre conj vow chn, p = pre ++ conj ++ vow ++ chn ∧ isConjunct conj = true ∧ optVowel vow = true ∧
      optChandra chn = true ∧ conjMaximal pre = true := by
  constructor
  · intro h
    obtain ⟨chn, vow, cj, rest, he, hchn, hvow, hcj, hmx⟩ := (isRephMoveable_iff_shape _).mp h
    refine ⟨rest.reverse, cj.reverse, vow, chn, ?_, isConjunct_reverse hcj, hvow, hchn, by simpa [conjMaximal] using hmx⟩
    have := congrArg List.reverse he
    simpa [optVowel_reverse hvow, optChandra_reverse hchn] using this
  · rintro ⟨pre, conj, vow, chn, rfl, hconj, hvow, hchn, -⟩
    exact moveable_of_shape pre hconj hvow hchn

/-- "the end of p otherwise", FULL strength: whenever the text does NOT end in conjunct + optional
    vowel + optional chandrabindu (the empty text included) the reph is appended at the end -/
theorem reph_end_otherwise (p : Str)
    (h : ¬ ∃ pre conj vow chn, p = pre ++ conj ++ vow ++ chn ∧ isConjunct conj = true ∧
      optVowel vow = true ∧ optChandra chn = true) :
    rephText p = p ++ [cR, cHasanta] := by
  have hm : isRephMoveable p.reverse = false := eq_false_of_ne_true fun hmv =>
    have ⟨pre, conj, vow, chn, he, h1, h2, h3, _⟩ := (moveable_iff_shape p).mp hmv
    h ⟨pre, conj, vow, chn, he, h1, h2, h3⟩
  simp [rephText, reph_end_otherwise_partial _ hm]

/-- every text falls under one of the two clauses: either it does not end in a syllable and the reph
    is appended, or it splits as `pre ++ conj ++ vow ++ chn` with a MAXIMAL conjunct and — if the code
    point before the conjunct is `goodBefore` — the reph lands immediately before the conjunct -/
theorem reph_cases (p : Str) :
    ((¬ ∃ pre conj vow chn, p = pre ++ conj ++ vow ++ chn ∧ isConjunct conj = true ∧
        optVowel vow = true ∧ optChandra chn = true) ∧ rephText p = p ++ [cR, cHasanta]) ∨
    (∃ pre conj vow chn, p = pre ++ conj ++ vow ++ chn ∧ isConjunct conj = true ∧ optVowel vow = true ∧
        optChandra chn = true ∧ conjMaximal pre = true ∧
        (goodBefore pre vow chn = true → rephText p = pre ++ [cR, cHasanta] ++ conj ++ vow ++ chn)) := by
  by_cases h : ∃ pre conj vow chn, p = pre ++ conj ++ vow ++ chn ∧ isConjunct conj = true ∧
      optVowel vow = true ∧ optChandra chn = true
  · obtain ⟨pre, conj, vow, chn, rfl, h1, h2, h3⟩ := h
    -- the conjunct can be taken maximal
    obtain ⟨pre', conj', vow', chn', he, h1, h2, h3, hmx⟩ :=
      (moveable_iff_shape _).mp (moveable_of_shape pre h1 h2 h3)
    exact .inr ⟨pre', conj', vow', chn', he, h1, h2, h3, hmx,
      fun hg => by rw [he]; exact reph_placement_partial pre' conj' vow' chn' h1 h2 h3 hg⟩
  · exact .inl ⟨h, reph_end_otherwise p h⟩

/-- case analysis behind `not_goodBefore_iff`: the stop test on one code point `d` fails exactly in
    the three listed classes (`Q` = "no pure consonant before `d`", known when `d` is a hasanta) -/
theorem not_good_aux (d : Char) (vow chn : Str) (Q : Prop) (hq : d = cHasanta → Q) :
    (isPureConsonant d || d == cChandra || (isVowel d && (!vow.isEmpty || chn.isEmpty))) = false ↔
      ((isPureConsonant d = false ∧ d ≠ cHasanta ∧ isVowel d = false ∧ d ≠ cChandra) ∨
       (isVowel d = true ∧ vow = [] ∧ chn ≠ []) ∨ (d = cHasanta ∧ Q)) := by
  have hE : (!vow.isEmpty || chn.isEmpty) = false ↔ vow = [] ∧ chn ≠ [] := by simp
  rw [Bool.or_eq_false_iff, Bool.or_eq_false_iff, Bool.and_eq_false_iff, hE, beq_eq_false_iff_ne]
  constructor
  · rintro ⟨⟨h1, h2⟩, h3⟩
    by_cases hh : d = cHasanta
    · exact .inr (.inr ⟨hh, hq hh⟩)
    · cases hv : isVowel d with
      | false => exact .inl ⟨h1, hh, rfl, h2⟩
      | true => exact .inr (.inl ⟨rfl, h3.resolve_left (by simp [hv])⟩)
  · rintro (⟨h1, -, h3, h4⟩ | ⟨hv, h⟩ | ⟨rfl, -⟩)
    · exact ⟨⟨h1, h4⟩, .inl h3⟩
    · exact ⟨⟨isVowel_not_cons hv, beq_eq_false_iff_ne.mp (isVowel_ne_chandra hv)⟩, .inr h⟩
    · exact ⟨⟨unclassed_hasanta.cons, by decide⟩, .inl unclassed_hasanta.vowel⟩

/-- the excluded inputs of `reph_placement_partial` are EXACTLY three classes: with a maximal
    conjunct, `goodBefore` fails iff the code point `d` before the conjunct is (a) in none of the
    scan's four classes, (b) a vowel while the syllable is conjunct + chandrabindu without vowel, or
    (c) a hasanta that is not preceded by a pure consonant (ill-formed text) -/
theorem not_goodBefore_iff (pre vow chn : Str) (hmx : conjMaximal pre = true) :
    goodBefore pre vow chn = false ↔ ∃ d, pre.getLast? = some d ∧
      ((isPureConsonant d = false ∧ d ≠ cHasanta ∧ isVowel d = false ∧ d ≠ cChandra) ∨
       (isVowel d = true ∧ vow = [] ∧ chn ≠ []) ∨
       (d = cHasanta ∧ ∀ k, pre.dropLast.getLast? = some k → isPureConsonant k = false)) := by
  have hgl : pre.getLast? = pre.reverse.head? := by simp
  have hdl : pre.dropLast.getLast? = (pre.reverse.drop 1).head? := by
    rw [← List.head?_reverse]; simp
  simp only [goodBefore, conjMaximal, hgl, hdl] at *
  generalize pre.reverse = r at *
  cases r with
  | nil => simp
  | cons d t =>
    cases t with
    | nil => simpa using not_good_aux d vow chn True (fun _ => trivial)
    | cons k r' =>
      simp only [rMaximal, Bool.not_eq_true', Bool.and_eq_false_iff, beq_eq_false_iff_ne, ne_eq] at hmx
      have := not_good_aux d vow chn (isPureConsonant k = false) (fun h => by simpa [h] using hmx)
      simpa using this

/-! ### the excluded classes are real: the code misplaces the reph there

`rw [String.toList_ofList]` exposes the characters of a literal by unification; left to itself the kernel decodes the
literal's UTF-8 bytes, at a cost quadratic in its length. -/

/-- (a) a code point outside the scan's four classes directly before the final conjunct is skipped
    WITHOUT being counted: in `ক্‌ক` (ka, hasanta, ZWNJ, ka — explicit hasanta) the final conjunct is
    the last ka, the reph belongs before it (`ক্‌র্ক`), but the code cuts between the first ka and its
    hasanta.  The hypotheses of the placement theorem other than `goodBefore` hold. -/
theorem reph_wrong_after_explicit_hasanta :
    let pre := "ক্".toList ++ [cZWNJ]
    let conj := "ক".toList
    isConjunct conj = true ∧ conjMaximal pre = true ∧ goodBefore pre [] [] = false ∧
    rephText (pre ++ conj) = "কর্্".toList ++ [cZWNJ] ++ "ক".toList ∧
    rephText (pre ++ conj) ≠ pre ++ [cR, cHasanta] ++ conj := by
  repeat rw [String.toList_ofList]
  decide +kernel

/-- (a) again with other unclassified code points: anusvara and a digit before the conjunct — the
    scan walks through them into the previous syllable -/
theorem reph_wrong_after_unclassified :
    rephText "ক্ংক".toList = "কর্্ংক".toList ∧ rephText "ক্1ক".toList = "কর্্1ক".toList := by
  repeat rw [String.toList_ofList]
  decide +kernel

/-- (b) conjunct + chandrabindu without vowel sign, preceded by a vowel (sign): once the chandrabindu
    flag is set the scan accepts a vowel at any depth.  `কাকঁ` gives `কর্াকঁ` (expected `কার্কঁ`) and
    `আকঁ` gives `র্আকঁ` (expected `আর্কঁ`).  Both texts are well-formed. -/
theorem reph_wrong_chandra_after_vowel :
    (isConjunct "ক".toList = true ∧ conjMaximal "কা".toList = true ∧
      goodBefore "কা".toList [] "ঁ".toList = false ∧
      rephText "কাকঁ".toList = "কর্াকঁ".toList ∧ rephText "কাকঁ".toList ≠ "কার্কঁ".toList) ∧
    (goodBefore "আ".toList [] "ঁ".toList = false ∧
      rephText "আকঁ".toList = "র্আকঁ".toList ∧ rephText "আকঁ".toList ≠ "আর্কঁ".toList) := by
  repeat rw [String.toList_ofList]
  decide +kernel

/-- (c) a hasanta that does not follow a consonant (ill-formed text) before the conjunct is counted
    into it: `া্ক` gives `ার্্ক` instead of `া্র্ক` -/
theorem reph_wrong_orphan_hasanta :
    conjMaximal "া্".toList = true ∧ goodBefore "া্".toList [] [] = false ∧
    rephText "া্ক".toList = "ার্্ক".toList ∧ rephText "া্ক".toList ≠ "া্র্ক".toList := by
  repeat rw [String.toList_ofList]
  decide +kernel

/-- the FULL-strength placement statement (every text ending in maximal conjunct + optional vowel +
    optional chandrabindu) is FALSE of the code — witness `কাকঁ` -/
theorem reph_placement_full_false :
    ¬ ∀ pre conj vow chn : Str, isConjunct conj = true → optVowel vow = true → optChandra chn = true →
        conjMaximal pre = true →
        rephText (pre ++ conj ++ vow ++ chn) = pre ++ [cR, cHasanta] ++ conj ++ vow ++ chn := by
  intro h
  have := h "কা".toList "ক".toList [] "ঁ".toList (by decide) (by decide) (by decide) (by decide)
  revert this
  repeat rw [String.toList_ofList]
  decide +kernel

/-! ## 6. Non-vacuity: the seven buffers of the Rust test `test_reph_insertion` -/

example : rephText "অক".toList = "অর্ক".toList := by rw [String.toList_ofList, String.toList_ofList]; decide +kernel
example : rephText "ক".toList = "র্ক".toList := by rw [String.toList_ofList, String.toList_ofList]; decide +kernel
example : rephText "কত".toList = "কর্ত".toList := by rw [String.toList_ofList, String.toList_ofList]; decide +kernel
example : rephText "অক্কা".toList = "অর্ক্কা".toList := by rw [String.toList_ofList, String.toList_ofList]; decide +kernel
example : rephText "কক্ষ্ম".toList = "কর্ক্ষ্ম".toList := by rw [String.toList_ofList, String.toList_ofList]; decide +kernel
example : rephText "কব্যা".toList = "কর্ব্যা".toList := by rw [String.toList_ofList, String.toList_ofList]; decide +kernel
example : rephText "কব্যাঁ".toList = "কর্ব্যাঁ".toList := by rw [String.toList_ofList, String.toList_ofList]; decide +kernel

/-- the hypotheses of `reph_placement_partial` hold on the last test buffer `কব্যাঁ`
    (pre = ক, conjunct = ব্য, vowel sign = া, chandrabindu), and its conclusion is the test's answer -/
example :
    isConjunct "ব্য".toList = true ∧ optVowel "া".toList = true ∧ optChandra "ঁ".toList = true ∧
    goodBefore "ক".toList "া".toList "ঁ".toList = true ∧ conjMaximal "ক".toList = true ∧
    "ক".toList ++ "ব্য".toList ++ "া".toList ++ "ঁ".toList = "কব্যাঁ".toList ∧
    "ক".toList ++ [cR, cHasanta] ++ "ব্য".toList ++ "া".toList ++ "ঁ".toList = "কর্ব্যাঁ".toList := by
  repeat rw [String.toList_ofList]
  decide +kernel

/-- the key-level theorems are not vacuous: option on, the whole key path on `কব্যাঁ` -/
example : (processKeyValue { fixedOldReph := true } { rbuf := "কব্যাঁ".toList.reverse } rephValue).buffer
    = "কর্ব্যাঁ".toList := by
  repeat rw [String.toList_ofList]
  decide +kernel

/-- option off: the same key just appends -/
example : (processKeyValue {} { rbuf := "কব্যাঁ".toList.reverse } rephValue).buffer
    = "কব্যাঁর্".toList := by
  repeat rw [String.toList_ofList]
  decide +kernel

/-- "the end of p otherwise" is not vacuous: a text ending in anusvara, one ending in an independent
    vowel, and the empty text get the reph appended -/
example : rephText "কং".toList = "কংর্".toList ∧ rephText "আ".toList = "আর্".toList ∧
    rephText [] = "র্".toList := by
  repeat rw [String.toList_ofList]
  decide +kernel

end Riti.C13
