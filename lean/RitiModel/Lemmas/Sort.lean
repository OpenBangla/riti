/-
Lemmas/Sort — the model's stable insertion sort (`sortStable`): what it achieves for which comparisons
(`sortStable_pairwise`, `sortStable_filter`), with a transitive comparator (`CmpTransOn`) and without
(`sortStable_fine`), and that it does not look at the texts (`Rel2`, `sortStable_rel2`).  Nothing here assumes that
`Rank.cmp` is transitive: every lemma states exactly which comparisons it needs, so the facts survive the known
non-transitivity of `impl Ord for Rank`.
-/
import RitiModel.Lemmas.Rank
namespace Riti
open Gen

/-! ### what one insertion and the whole sort keep: an order `R`, the input order of a class, the ends -/

theorem insertSortedFront_pairwise {R : Rank → Rank → Prop} (x : Rank) (S : List Rank)
    (hS : S.Pairwise R)
    (htrans : ∀ b ∈ S, ∀ c ∈ S, R x b → R b c → R x c)
    (hlt : ∀ y ∈ S, y.cmp x = .lt → R y x)
    (hstop : ∀ y ∈ S, y.cmp x ≠ .lt → R x y) :
    (sortStable.insertSortedFront x S).Pairwise R := by
  obtain ⟨A, B, rfl, hA, hB⟩ := exists_lt_run x S
  rw [insertSortedFront_append x A B hA hB]
  rw [List.pairwise_append] at hS ⊢
  obtain ⟨hpA, hpB, hAB⟩ := hS
  -- `x` is `R`-below the first item of `B` by the comparison that stopped the loop, below the others by transitivity
  have hxB : ∀ b ∈ B, R x b := by
    cases B with
    | nil => simp
    | cons b0 B' =>
      have h0 := hstop b0 (by simp) (hB b0 rfl)
      intro b hb
      rcases List.mem_cons.mp hb with rfl | hb
      · exact h0
      · exact htrans b0 (by simp) b (by simp [hb]) h0 ((List.pairwise_cons.mp hpB).1 b hb)
  refine ⟨hpA, List.pairwise_cons.mpr ⟨hxB, hpB⟩, fun a ha b hb => ?_⟩
  rcases List.mem_cons.mp hb with rfl | hb
  · exact hlt a (by simp [ha]) (hA a ha)
  · exact hAB a ha b hb

/-- the sort produces an `R`-sorted list for every relation `R` that (on the members of the input)
    is transitive, contains "strictly less", and contains "`b` not strictly less than `a`" for
    `a` before `b` in the input: the one comparison that lets `a` stop in front of `b` -/
theorem sortStable_pairwise {R : Rank → Rank → Prop} (l : List Rank)
    (htrans : ∀ a ∈ l, ∀ b ∈ l, ∀ c ∈ l, R a b → R b c → R a c)
    (hlt : ∀ a ∈ l, ∀ b ∈ l, a.cmp b = .lt → R a b)
    (hstop : l.Pairwise (fun a b => b.cmp a ≠ .lt → R a b)) :
    (sortStable l).Pairwise R := by
  induction l with
  | nil => simp [sortStable]
  | cons x xs ih =>
    simp only [sortStable]
    rw [List.pairwise_cons] at hstop
    have hm : ∀ {y}, y ∈ sortStable xs → y ∈ x :: xs := fun h => List.mem_cons_of_mem _ (mem_sortStable.mp h)
    apply insertSortedFront_pairwise
    · exact ih (fun a ha b hb c hc => htrans a (List.mem_cons_of_mem _ ha) b (List.mem_cons_of_mem _ hb)
        c (List.mem_cons_of_mem _ hc))
        (fun a ha b hb => hlt a (List.mem_cons_of_mem _ ha) b (List.mem_cons_of_mem _ hb)) hstop.2
    · exact fun b hb c hc => htrans x (by simp) b (hm hb) c (hm hc)
    · exact fun y hy => hlt y (hm hy) x (by simp)
    · exact fun y hy => hstop.1 y (mem_sortStable.mp hy)

theorem insertSortedFront_filter (p : Rank → Bool) (x : Rank) (S : List Rank)
    (h : p x = true → ∀ y ∈ S, p y = true → y.cmp x ≠ .lt) :
    (sortStable.insertSortedFront x S).filter p = (x :: S).filter p := by
  obtain ⟨A, B, rfl, hA, hB⟩ := exists_lt_run x S
  rw [insertSortedFront_append x A B hA hB]
  by_cases hx : p x = true
  · -- no item of the run passes the filter
    have : A.filter p = [] := List.filter_eq_nil_iff.mpr fun y hy hpy => h hx y (by simp [hy]) hpy (hA y hy)
    simp [List.filter_append, hx, this]
  · simp [List.filter_append, hx]

/-- *stability*, stated without assuming a preorder: the sort keeps the input order of any class `p` of items none of
    which is strictly below an earlier one -/
theorem sortStable_filter (p : Rank → Bool) (l : List Rank)
    (h : l.Pairwise (fun a b => p a = true → p b = true → b.cmp a ≠ .lt)) :
    (sortStable l).filter p = l.filter p := by
  induction l with
  | nil => simp [sortStable]
  | cons x xs ih =>
    rw [List.pairwise_cons] at h
    simp only [sortStable]
    rw [insertSortedFront_filter p x _ (fun hx y hy hpy => h.1 y (mem_sortStable.mp hy) hx hpy)]
    simp only [List.filter_cons, ih h.2]

theorem sortStable_cons_min (x : Rank) (l : List Rank) (h : ∀ y ∈ l, y.cmp x ≠ .lt) :
    sortStable (x :: l) = x :: sortStable l :=
  insertSortedFront_append x [] _ (by simp) fun b hb => h b (mem_sortStable.mp (List.mem_of_mem_head? hb))

theorem insertSortedFront_append_max (a x : Rank) (S : List Rank) (h : x.cmp a ≠ .lt) :
    sortStable.insertSortedFront a (S ++ [x]) = sortStable.insertSortedFront a S ++ [x] := by
  induction S with
  | nil => simp [sortStable.insertSortedFront, h]
  | cons y ys ih =>
    simp only [List.cons_append, sortStable.insertSortedFront, ih]
    split <;> rfl

theorem sortStable_append_max (x : Rank) (l : List Rank) (h : ∀ y ∈ l, x.cmp y ≠ .lt) :
    sortStable (l ++ [x]) = sortStable l ++ [x] := by
  induction l with
  | nil => rfl
  | cons a as ih =>
    simp only [List.cons_append, sortStable]
    rw [ih (fun y hy => h y (List.mem_cons_of_mem _ hy))]
    exact insertSortedFront_append_max a x _ (h a (by simp))

theorem index_lt_of_pairwise {α : Type} {R : α → α → Prop} {l : List α} (h : l.Pairwise R) (hrefl : ∀ a, R a a)
    {i j : Nat} (hi : i < l.length) (hj : j < l.length) (hnot : ¬ R l[j] l[i]) : i < j := by
  rcases Nat.lt_trichotomy i j with h1 | rfl | h1
  · exact h1
  · exact absurd (hrefl _) hnot
  · exact absurd (List.pairwise_iff_getElem.mp h j i hj hi h1) hnot

/-! ### the one `Ord` law that is not universal -/

/-- `≤` of `impl Ord for Rank` is transitive on the members of `l` — the only `Ord` law that
    `Rank` can break (reflexivity, antisymmetry, totality hold for all ranks: `cmp_refl`,
    `cmp_lt_iff_gt`, `cmp_eq_symm`, `C07.le_total`) -/
def CmpTransOn (l : List Rank) : Prop :=
  ∀ a ∈ l, ∀ b ∈ l, ∀ c ∈ l, a.cmp b ≠ .gt → b.cmp c ≠ .gt → a.cmp c ≠ .gt

theorem CmpTransOn.of_subset {l l' : List Rank} (h : CmpTransOn l) (hs : ∀ x ∈ l', x ∈ l) : CmpTransOn l' :=
  fun a ha b hb c hc => h a (hs a ha) b (hs b hb) c (hs c hc)

theorem CmpTransOn.eq_trans {l : List Rank} (ht : CmpTransOn l) {a b c : Rank}
    (ha : a ∈ l) (hb : b ∈ l) (hc : c ∈ l) (hab : a.cmp b = .eq) (hbc : b.cmp c = .eq) : a.cmp c = .eq := by
  apply cmp_eq_of_not_gt_both
  · exact ht a ha b hb c hc (by simp [hab]) (by simp [hbc])
  · exact ht c hc b hb a ha (by simp [(cmp_eq_symm b c).mp hbc]) (by simp [(cmp_eq_symm a b).mp hab])

theorem CmpTransOn.lt_of_lt_of_le {l : List Rank} (ht : CmpTransOn l) {y a b : Rank}
    (hy : y ∈ l) (ha : a ∈ l) (hb : b ∈ l) (hya : y.cmp a = .lt) (hab : a.cmp b ≠ .gt) : y.cmp b = .lt := by
  apply Classical.byContradiction
  intro hn
  have hby : b.cmp y ≠ .gt := (cmp_ne_lt_iff_ne_gt y b).mp hn
  exact ht a ha b hb y hy hab hby ((cmp_lt_iff_gt y a).mp hya)

/-! ### with `≤` transitive on the list: ascending and stable (the only such rearrangement: `Lemmas/SortSpec`) -/

theorem sortStable_sorted_of_trans {l : List Rank} (ht : CmpTransOn l) :
    (sortStable l).Pairwise (fun a b => a.cmp b ≠ .gt) := by
  apply sortStable_pairwise
  · exact ht
  · intro a _ b _ h; simp [h]
  · exact List.pairwise_of_forall_mem_list (fun a _ b _ h => (cmp_ne_lt_iff_ne_gt b a).mp h)

/-- `x` is a member of the list, or any rank that leaves the comparator transitive -/
theorem sortStable_stable_of_trans {l : List Rank} (x : Rank) (ht : CmpTransOn (x :: l)) :
    (sortStable l).filter (fun y => y.cmp x == .eq) = l.filter (fun y => y.cmp x == .eq) := by
  apply sortStable_filter
  apply List.pairwise_of_forall_mem_list
  intro a ha b hb hax hbx
  have := ht.eq_trans (List.mem_cons_of_mem _ hb) List.mem_cons_self (List.mem_cons_of_mem _ ha)
    (by simpa using hbx) ((cmp_eq_symm a x).mp (by simpa using hax))
  simp [this]

theorem sortStable_stable_mem_of_trans {l : List Rank} (ht : CmpTransOn l) {x : Rank} (hx : x ∈ l) :
    (sortStable l).filter (fun y => y.cmp x == .eq) = l.filter (fun y => y.cmp x == .eq) :=
  sortStable_stable_of_trans x (ht.of_subset (List.forall_mem_cons.mpr ⟨hx, fun _ h => h⟩))

/-! ### what the sort achieves without transitivity -/

/-- for EVERY input the sorted list is ascending in (class, number), except that the items of the middle class (words
    and emoji) may stand in any order among themselves: the comparator refines the class order even where it is not
    a preorder -/
theorem sortStable_coarse (l : List Rank) :
    (sortStable l).Pairwise (fun a b => keyLe a b ∨ (a.classKey = 1 ∧ b.classKey = 1)) := by
  apply sortStable_pairwise
  · intro a _ b _ c _ h1 h2
    unfold keyLe at *
    omega
  · exact fun a _ b _ h => Or.inl (keyLe_of_lt h)
  · exact List.pairwise_of_forall_mem_list fun a _ b _ h =>
      ((Rank.le_iff a b).mp (le_of_not_lt h)).imp_right fun ⟨ha, hb⟩ =>
        ⟨Rank.classKey_emoji ha, Rank.classKey_emoji hb⟩

/-- the emoji of the list carry non-decreasing numbers in list order (the pipeline numbers them 1, 2, 3, …) -/
def EmojiAscending (l : List Rank) : Prop :=
  l.Pairwise (fun a b => a.variant = .emoji → b.variant = .emoji → a.num ≤ b.num)

/-- if the emoji come in ascending number, the stable sort under the (non-transitive) comparator is ascending for
    the transitive order `keyLe` (class, then number): the comparator deviates from `keyLe` only between two emoji
    (`Rank.le_iff`), and those the sort leaves in input order -/
theorem sortStable_fine (l : List Rank) (hasc : EmojiAscending l) : (sortStable l).Pairwise keyLe := by
  apply sortStable_pairwise
  · exact fun a _ b _ c _ => keyLe_trans
  · exact fun a _ b _ => keyLe_of_lt
  · refine hasc.imp fun {a b} hab h => ?_
    rcases (Rank.le_iff a b).mp (le_of_not_lt h) with h | ⟨ha, hb⟩
    · exact h
    · exact Or.inr ⟨by rw [Rank.classKey_emoji ha, Rank.classKey_emoji hb], hab ha hb⟩

/-! ### the sort does not look at the texts -/

/-- two lists related item by item -/
inductive Rel2 (R : Rank → Rank → Prop) : List Rank → List Rank → Prop
  | nil : Rel2 R [] []
  | cons {a b : Rank} {l m : List Rank} : R a b → Rel2 R l m → Rel2 R (a :: l) (b :: m)

theorem Rel2.length_eq {R : Rank → Rank → Prop} {l m : List Rank} (h : Rel2 R l m) : l.length = m.length := by
  induction h with
  | nil => rfl
  | cons _ _ ih => simp [ih]

theorem Rel2.getElem {R : Rank → Rank → Prop} {l m : List Rank} (h : Rel2 R l m) (i : Nat) (hl : i < l.length)
    (hm : i < m.length) : R l[i] m[i] := by
  induction h generalizing i with
  | nil => simp at hl
  | cons hab _ ih =>
    cases i with
    | zero => exact hab
    | succ j => exact ih j (by simpa using hl) (by simpa using hm)

theorem Rel2.append {R : Rank → Rank → Prop} {l m l' m' : List Rank} (h : Rel2 R l m) (h' : Rel2 R l' m') :
    Rel2 R (l ++ l') (m ++ m') := by
  induction h with
  | nil => exact h'
  | cons hab _ ih => exact .cons hab ih

theorem Rel2.map_map {ι : Type} {R : Rank → Rank → Prop} (f g : ι → Rank) (l : List ι) (h : ∀ r ∈ l, R (f r) (g r)) :
    Rel2 R (l.map f) (l.map g) := by
  induction l with
  | nil => exact .nil
  | cons a l ih => exact .cons (h a (by simp)) (ih (fun r hr => h r (by simp [hr])))

theorem Rel2.of_eq {R : Rank → Rank → Prop} {l m : List Rank} (h : l = m) (hR : ∀ r ∈ l, R r r) : Rel2 R l m := by
  subst h
  simpa using Rel2.map_map id id l hR

theorem Rel2.mono {R S : Rank → Rank → Prop} {l m : List Rank} (h : Rel2 R l m) (hRS : ∀ a b, R a b → S a b) :
    Rel2 S l m := by
  induction h with
  | nil => exact .nil
  | cons hab _ ih => exact .cons (hRS _ _ hab) ih

theorem Rel2.map_eq {α : Type} {f g : Rank → α} {l m : List Rank} (h : Rel2 (fun a b => f a = g b) l m) :
    l.map f = m.map g := by
  induction h with
  | nil => rfl
  | cons hab _ ih => rw [List.map_cons, List.map_cons, hab, ih]

theorem Rel2.findIdx?_eq {p q : Rank → Bool} {l m : List Rank} (h : Rel2 (fun a b => p a = q b) l m) :
    l.findIdx? p = m.findIdx? q := by
  induction h with
  | nil => rfl
  | cons hab _ ih => rw [List.findIdx?_cons, List.findIdx?_cons, hab, ih]

theorem Rel2.exists_map {ι : Type} {f g : ι → Rank} {l m : List Rank}
    (h : Rel2 (fun a b => ∃ i, a = f i ∧ b = g i) l m) : ∃ its : List ι, l = its.map f ∧ m = its.map g := by
  induction h with
  | nil => exact ⟨[], rfl, rfl⟩
  | cons hab _ ih =>
    obtain ⟨i, rfl, rfl⟩ := hab
    obtain ⟨its, rfl, rfl⟩ := ih
    exact ⟨i :: its, rfl, rfl⟩

/-- what the comparator looks at: the kind of the item and its number -/
def skel (r : Rank) : Variant × Nat := (r.variant, r.num)

theorem skel_setText (r : Rank) (t : List Char) : skel (r.setText t) = skel r := by cases r <;> rfl

theorem cmp_skel {a a' b b' : Rank} (ha : skel a = skel a') (hb : skel b = skel b') : a.cmp b = a'.cmp b' := by
  simp only [skel, Prod.mk.injEq] at ha hb
  simp only [Rank.cmp, ha.1, ha.2, hb.1, hb.2]

theorem insertSortedFront_rel2 {R : Rank → Rank → Prop} (hR : ∀ a b, R a b → skel a = skel b) {x x' : Rank}
    {l l' : List Rank} (hx : R x x') (h : Rel2 R l l') :
    Rel2 R (sortStable.insertSortedFront x l) (sortStable.insertSortedFront x' l') := by
  induction h with
  | nil => exact .cons hx .nil
  | @cons a b l m hab hlm ih =>
    simp only [sortStable.insertSortedFront]
    rw [cmp_skel (hR _ _ hab) (hR _ _ hx)]
    split
    · exact .cons hab ih
    · exact .cons hx (.cons hab hlm)

/-- **the stable sort moves items that rank alike alike**: lists related item by item by a relation that preserves
    kind and number are still related item by item after the sort -/
theorem sortStable_rel2 {R : Rank → Rank → Prop} (hR : ∀ a b, R a b → skel a = skel b) {l l' : List Rank}
    (h : Rel2 R l l') : Rel2 R (sortStable l) (sortStable l') := by
  induction h with
  | nil => exact .nil
  | cons hab _ ih => exact insertSortedFront_rel2 hR hab ih

/-- the stable sort commutes with every relabelling that keeps variant and number: the order of
    the candidates never depends on their texts (`sortStable_rel2` for the relation `f a = b`) -/
theorem sortStable_map_of_cmp_preserving (f : Rank → Rank) (hv : ∀ r, (f r).variant = r.variant)
    (hn : ∀ r, (f r).num = r.num) (l : List Rank) : sortStable (l.map f) = (sortStable l).map f :=
  ((sortStable_rel2 (R := fun a b => f a = id b) (fun a b h => by simp [skel, ← show f a = b from h, hv, hn])
    (by simpa using Rel2.map_map id f l (fun _ _ => rfl))).map_eq.trans (List.map_id _)).symm

end Riti
