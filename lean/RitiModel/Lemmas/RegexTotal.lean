/-
Lemmas/RegexTotal — what the reader of `Model/Regex` accepts, exactly.  `Rx.Shape` describes the expressions the reader can
return (an alternation of sequences of items, an item being an atom under some `?`s); `parse_iff` says that each of the
three readers returns `(a, r)` iff `a` has the shape of its level, the text read is `a.render`, what follows is a stop
character of the level, and the fuel covers the nesting depth of `a`.  Faithfulness to the text, fuel monotonicity,
independence of what follows, and the texts that can be concatenated (`Closed`) are all read off that one statement.
-/
import RitiModel.Model.Regex
namespace Riti

/-! ### postfix `?` -/

/-- `a` under `k` postfix `?` -/
def Rx.opts : Nat → Rx → Rx
  | 0, a => a
  | k + 1, a => opts k (.opt a)

theorem render_opts : ∀ (k : Nat) (a : Rx), (a.opts k).render = a.render ++ List.replicate k '?'
  | 0, a => by simp [Rx.opts]
  | k + 1, a => by simp [Rx.opts, render_opts k, Rx.render, List.replicate_succ]

theorem applyOpts_eq : ∀ (s : List Char) (a : Rx), ∃ k,
    s = List.replicate k '?' ++ (applyOpts a s).2 ∧ (applyOpts a s).1 = a.opts k
  | [], a => ⟨0, by simp [applyOpts, Rx.opts]⟩
  | c :: s, a => by
    rw [applyOpts]
    split
    · rename_i hc
      obtain ⟨k, h1, h2⟩ := applyOpts_eq s (.opt a)
      exact ⟨k + 1, by rw [List.replicate_succ, List.cons_append, ← h1, hc], h2⟩
    · exact ⟨0, by simp [Rx.opts]⟩

theorem applyOpts_replicate {y : List Char} (hy : y.head? ≠ some '?') : ∀ (k : Nat) (a : Rx),
    applyOpts a (List.replicate k '?' ++ y) = (a.opts k, y)
  | 0, a => by
    cases y with
    | nil => rfl
    | cons c t => simp [applyOpts, Rx.opts, show c ≠ '?' by simpa using hy]
  | k + 1, a => by
    rw [List.replicate_succ, List.cons_append, applyOpts, if_pos rfl, applyOpts_replicate hy k, Rx.opts]

/-! ### the special characters -/

/-- the characters that are not literals for the reader, as a list: what holds of each holds of every special character -/
def rxSpecials : List Char := ['(', ')', '|', '?', '[', ']', '*', '+', '.', '{', '}', '\\', '^', '$']

theorem rxSpecial_mem {c : Char} (h : rxSpecial c = true) : c ∈ rxSpecials := by
  simp only [rxSpecial, Bool.or_eq_true, decide_eq_true_eq] at h
  simp only [rxSpecials, List.mem_cons, List.not_mem_nil, or_false, ← or_assoc]
  exact h

/-! ### character sets -/

/-- a character that can stand between `[` and `]` -/
def clsPlain (x : Char) : Prop := ¬ (x = ']' ∨ x = '-' ∨ x = '^' ∨ x = '\\' ∨ x = '[')

theorem parseClass_some {s acc cs rest : List Char} (h : parseClass s acc = some (cs, rest)) :
    ∃ body, s = body ++ ']' :: rest ∧ cs = acc.reverse ++ body ∧ cs ≠ [] ∧ ∀ x ∈ body, clsPlain x := by
  fun_induction parseClass s acc with
  | case1 | case2 | case4 => cases h
  | case3 r acc hne => cases h; exact ⟨[], rfl, by simp, by simpa using hne, nofun⟩
  | case5 c r acc hc hp ih =>
    obtain ⟨body, rfl, rfl, h3, h4⟩ := ih h
    exact ⟨c :: body, rfl, by simp, h3, List.forall_mem_cons.2 ⟨fun h => h.elim hc hp, h4⟩⟩

theorem parseClass_plain (rest : List Char) : ∀ (body acc : List Char), (∀ x ∈ body, clsPlain x) → acc.reverse ++ body ≠ [] →
    parseClass (body ++ ']' :: rest) acc = some (acc.reverse ++ body, rest)
  | [], acc, _, hne => by simp [parseClass, show acc ≠ [] by simpa using hne]
  | x :: b, acc, hp, _ => by
    have hx : ¬ (x = ']' ∨ x = '-' ∨ x = '^' ∨ x = '\\' ∨ x = '[') := hp x (List.mem_cons_self ..)
    rw [List.cons_append, parseClass, if_neg (fun e => hx (.inl e)), if_neg (fun e => hx (.inr e)),
      parseClass_plain rest b (x :: acc) (fun y hy => hp y (List.mem_cons_of_mem _ hy)) (by simp)]
    simp

/-! ### the expressions the reader returns -/

inductive Rx.Lvl | alt | seq | atom

/-- the grammar: an alternation is `seq ('|' seq)*`, a sequence is a list of atoms each under some `?`s, ended by `eps`;
    an atom is a literal that is not special, a non-empty set of plain characters, or an alternation in brackets -/
inductive Rx.Shape : Rx.Lvl → Rx → Prop
  | chr {c : Char} : rxSpecial c = false → Rx.Shape .atom (.chr c)
  | cls {cs : List Char} : cs ≠ [] → (∀ x ∈ cs, clsPlain x) → Rx.Shape .atom (.cls cs)
  | grp {a : Rx} : Rx.Shape .alt a → Rx.Shape .atom (.grp a)
  | eps : Rx.Shape .seq .eps
  | cat {a b : Rx} (k : Nat) : Rx.Shape .atom a → Rx.Shape .seq b → Rx.Shape .seq (.cat (a.opts k) b)
  | one {a : Rx} : Rx.Shape .seq a → Rx.Shape .alt a
  | alt {a b : Rx} : Rx.Shape .seq a → Rx.Shape .alt b → Rx.Shape .alt (.alt a b)

/-- nesting depth, counted so that the three readers need `depth + 2`, `depth + 1`, `depth + 1` units of fuel -/
def Rx.depth : Rx → Nat
  | .cat a b => max a.depth b.depth + 1
  | .alt a b => max a.depth (b.depth + 1)
  | .opt a => a.depth
  | .grp a => a.depth + 2
  | _ => 0

theorem depth_opts : ∀ (k : Nat) (a : Rx), (a.opts k).depth = a.depth
  | 0, _ => rfl
  | k + 1, a => by rw [Rx.opts, depth_opts k]; rfl

/-- where a concatenation stops -/
def StopCat (y : List Char) : Prop := y = [] ∨ ∃ y', y = ')' :: y' ∨ y = '|' :: y'
/-- where an alternation stops -/
def StopAlt (y : List Char) : Prop := y = [] ∨ ∃ y', y = ')' :: y'

theorem StopAlt.stopCat {y : List Char} (h : StopAlt y) : StopCat y :=
  h.imp id fun ⟨y', e⟩ => ⟨y', .inl e⟩

/-- the text of an atom starts with a character on which a sequence goes on -/
theorem Rx.Shape.atom_head {a : Rx} (h : Rx.Shape .atom a) :
    ∃ c t, a.render = c :: t ∧ c ≠ '?' ∧ c ≠ ')' ∧ c ≠ '|' := by
  cases h with
  | chr hc => refine ⟨_, [], rfl, ?_, ?_, ?_⟩ <;> (rintro rfl; cases hc)
  | cls => exact ⟨'[', _, rfl, by decide, by decide, by decide⟩
  | grp => exact ⟨'(', _, rfl, by decide, by decide, by decide⟩

theorem Rx.Shape.seq_head {a : Rx} (h : Rx.Shape .seq a) {y : List Char} (hy : StopCat y) :
    (a.render ++ y).head? ≠ some '?' := by
  cases h with
  | eps => rcases hy with rfl | ⟨y', rfl | rfl⟩ <;> simp [Rx.render]
  | cat k ha _ =>
    obtain ⟨c, t, e, hc, _⟩ := ha.atom_head
    simpa [Rx.render, render_opts, e] using hc

/-! ### the reader characterised -/

theorem parse_iff (f : Nat) :
    (∀ s a r, parseAlt f s = some (a, r) ↔ Rx.Shape .alt a ∧ s = a.render ++ r ∧ StopAlt r ∧ a.depth + 2 ≤ f) ∧
    (∀ s a r, parseCat f s = some (a, r) ↔ Rx.Shape .seq a ∧ s = a.render ++ r ∧ StopCat r ∧ a.depth + 1 ≤ f) ∧
    (∀ s a r, parseAtom f s = some (a, r) ↔ Rx.Shape .atom a ∧ s = a.render ++ r ∧ a.depth + 1 ≤ f) := by
  induction f with
  | zero => simp [parseAlt, parseCat, parseAtom]
  | succ f ih =>
    obtain ⟨ihAlt, ihCat, ihAtom⟩ := ih
    -- "only if": along the definition of the reader, one case per accepting branch (`hg` says that the calls inside have fuel `f`);
    -- "if": by the constructor of the shape
    refine ⟨fun s a r => ⟨?_, ?_⟩, fun s a r => ⟨?_, ?_⟩, fun s a r => ⟨?_, ?_⟩⟩
    · generalize hg : f + 1 = g
      fun_cases parseAlt g s with
      | case3 s _ a0 y b r' h2 h1 =>
        cases hg; rintro ⟨⟩
        obtain ⟨sa, rfl, _, d⟩ := (ihCat _ _ _).1 h1
        obtain ⟨sb, rfl, st', d'⟩ := (ihAlt _ _ _).1 h2
        exact ⟨.alt sa sb, by simp [Rx.render], st', by simp only [Rx.depth]; omega⟩
      | case5 s _ a0 c y hc h1 =>
        cases hg; rintro ⟨⟩
        obtain ⟨sa, rfl, st, d⟩ := (ihCat _ _ _).1 h1
        exact ⟨.one sa, rfl, st.imp nofun (.imp fun y' e => e.resolve_right fun e => hc (List.cons.inj e).1), by omega⟩
      | case6 s _ a0 h1 =>
        cases hg; rintro ⟨⟩
        obtain ⟨sa, rfl, -, d⟩ := (ihCat _ _ _).1 h1
        exact ⟨.one sa, rfl, .inl rfl, by omega⟩
      | _ => nofun
    · rintro ⟨sh, rfl, st, d⟩
      rw [parseAlt]
      cases sh with
      | one sa =>
        rw [(ihCat _ _ _).2 ⟨sa, rfl, st.stopCat, by omega⟩]
        rcases st with rfl | ⟨y', rfl⟩ <;> simp
      | alt sa sb =>
        simp only [Rx.depth] at d
        simp only [Rx.render, List.append_assoc, List.cons_append]
        rw [(ihCat _ _ _).2 ⟨sa, rfl, .inr ⟨_, .inr rfl⟩, by omega⟩]
        simp [(ihAlt _ _ _).2 ⟨sb, rfl, st, by omega⟩]
    · generalize hg : f + 1 = g
      fun_cases parseCat g s with
      | case2 => rintro ⟨⟩; exact ⟨.eps, rfl, .inl rfl, by simp only [Rx.depth]; omega⟩
      | case3 _ c t hc =>
        rintro ⟨⟩
        exact ⟨.eps, rfl, .inr ⟨t, hc.imp (fun e => by rw [e]) (fun e => by rw [e])⟩, by simp only [Rx.depth]; omega⟩
      | case5 _ c t _ a0 r1 ar b r' h2 h1 =>
        cases hg
        simp only [ar] at h2
        simp only [h1, h2]
        rintro ⟨⟩
        obtain ⟨sa, e1, d1⟩ := (ihAtom _ _ _).1 h1
        obtain ⟨sb, e2, st, d2⟩ := (ihCat _ _ _).1 h2
        obtain ⟨k, e3, e4⟩ := applyOpts_eq r1 a0
        rw [e4]
        exact ⟨.cat k sa sb, by rw [e1, e3, e2]; simp [Rx.render, render_opts], st,
          by simp only [Rx.depth, depth_opts]; omega⟩
      | case6 _ _ _ _ _ _ ar h2 h1 => simp only [ar] at h2; simp [h1, h2]
      | _ => simp [*]
    · rintro ⟨sh, rfl, st, d⟩
      cases sh with
      | eps => rcases st with rfl | ⟨y', rfl | rfl⟩ <;> simp [parseCat, Rx.render]
      | @cat a0 b k sa sb =>
        simp only [Rx.depth, depth_opts] at d
        obtain ⟨c, t, e, -, h2, h3⟩ := sa.atom_head
        have hat := (ihAtom (a0.render ++ (List.replicate k '?' ++ (b.render ++ r))) a0 _).2 ⟨sa, rfl, by omega⟩
        have hb := (ihCat _ _ _).2 ⟨sb, rfl, st, by omega⟩
        simp only [Rx.render, render_opts, List.append_assoc]
        rw [e] at hat ⊢
        rw [List.cons_append] at hat ⊢
        rw [parseCat]
        simp only [h2, h3, or_self, if_false, hat]
        rw [applyOpts_replicate (sb.seq_head st)]
        simp [hb]
    · generalize hg : f + 1 = g
      fun_cases parseAtom g s with
      | case3 _ t a' r' h1 =>
        cases hg; rintro ⟨⟩
        obtain ⟨sa, rfl, _, dd⟩ := (ihAlt _ _ _).1 h1
        exact ⟨.grp sa, by simp [Rx.render], by simp only [Rx.depth]; omega⟩
      | case6 _ t cs r' h1 =>
        rintro ⟨⟩
        obtain ⟨body, rfl, rfl, hne, hp⟩ := parseClass_some h1
        exact ⟨.cls (by simpa using hne) (by simpa using hp), by simp [Rx.render], by simp only [Rx.depth]; omega⟩
      | case9 _ c t _ _ hsp => rintro ⟨⟩; exact ⟨.chr (by simpa using hsp), rfl, by simp only [Rx.depth]; omega⟩
      | _ => nofun
    · rintro ⟨sh, rfl, d⟩
      cases sh with
      | @chr c hc =>
        have h1 : c ≠ '(' := by rintro rfl; cases hc
        have h2 : c ≠ '[' := by rintro rfl; cases hc
        simp [Rx.render, parseAtom, h1, h2, hc]
      | @cls cs hne hp =>
        simp only [Rx.render, List.cons_append, List.append_assoc]
        rw [parseAtom]
        simp [parseClass_plain r cs [] hp (by simpa using hne)]
      | grp sa =>
        simp only [Rx.depth] at d
        simp only [Rx.render, List.cons_append, List.append_assoc]
        rw [parseAtom]
        simp [(ihAlt _ _ _).2 ⟨sa, rfl, .inr ⟨_, rfl⟩, by omega⟩]

/-- the fuel `parseRx` takes is never the limit: the depth of an expression is at most twice the length of its text
    (an atom stays 2 below, which pays for the sequence and the alternation around it) -/
theorem Rx.Shape.depth_le {l : Rx.Lvl} {a : Rx} (h : Rx.Shape l a) :
    a.depth + (match l with | .atom => 2 | _ => 0) ≤ 2 * a.render.length := by
  induction h with
  | cat k ha _ iha ihb =>
    simp only [Rx.depth, depth_opts, Rx.render, render_opts, List.length_append] at *
    omega
  | cls hne =>
    have := List.length_pos_iff.2 hne
    simp only [Rx.depth, Rx.render, List.length_append, List.length_cons]
    omega
  | _ => simp only [Rx.depth, Rx.render, List.length_append, List.length_cons] at * <;> omega

theorem parseRx_iff {s : List Char} {a : Rx} : parseRx s = some a ↔ Rx.Shape .alt a ∧ a.render = s := by
  unfold parseRx
  constructor
  · intro h
    split at h
    · rename_i a' heq
      obtain ⟨sh, e, _⟩ := ((parse_iff _).1 _ _ _).1 heq
      cases h
      exact ⟨sh, by simpa using e.symm⟩
    · cases h
  · rintro ⟨sh, rfl⟩
    have : a.depth + 0 ≤ _ := sh.depth_le
    rw [((parse_iff _).1 a.render a []).2 ⟨sh, by simp, .inl rfl, by omega⟩]

/-! ### read off the characterisation -/

theorem parseAlt_mono {f g : Nat} {s : List Char} {v : Rx × List Char} (h : parseAlt f s = some v) (hfg : f ≤ g) :
    parseAlt g s = some v :=
  let ⟨sh, e, st, d⟩ := ((parse_iff f).1 s v.1 v.2).1 h
  ((parse_iff g).1 s v.1 v.2).2 ⟨sh, e, st, Nat.le_trans d hfg⟩

theorem parseAlt_render_self {f : Nat} {s r1 : List Char} {a : Rx} (h : parseAlt f s = some (a, r1)) :
    parseAlt f a.render = some (a, []) :=
  let ⟨sh, _, _, d⟩ := ((parse_iff f).1 s a r1).1 h
  ((parse_iff f).1 a.render a []).2 ⟨sh, by simp, .inl rfl, d⟩

theorem parseRx_render_self {s : List Char} {r : Rx} (h : parseRx s = some r) : parseRx r.render = some r :=
  parseRx_iff.2 ⟨(parseRx_iff.1 h).1, rfl⟩

/-! ### texts that can be concatenated -/

/-- a text that reads as a sequence of items -/
def Closed (t : List Char) : Prop := ∃ a, Rx.Shape .seq a ∧ a.render = t

theorem closed_nil : Closed [] := ⟨.eps, .eps, rfl⟩

theorem closed_lit {c : Char} (hc : rxSpecial c = false) : Closed [c] := ⟨_, .cat 0 (.chr hc) .eps, rfl⟩

/-- sequences are lists: one can be continued by another -/
theorem Rx.Shape.seq_append {b : Rx} (hb : Rx.Shape .seq b) : ∀ {a : Rx}, Rx.Shape .seq a →
    ∃ c, Rx.Shape .seq c ∧ c.render = a.render ++ b.render
  | _, .eps => ⟨b, hb, rfl⟩
  | _, .cat k ha hs =>
    let ⟨c, hc, e⟩ := hb.seq_append hs
    ⟨_, .cat k ha hc, by simp [Rx.render, e]⟩

theorem closed_append {t u : List Char} : Closed t → Closed u → Closed (t ++ u)
  | ⟨_, ha, ea⟩, ⟨_, hb, eb⟩ => let ⟨c, hc, e⟩ := hb.seq_append ha; ⟨c, hc, by rw [e, ea, eb]⟩

/-- the executable test: `parseCat` with fuel `4 * length + 1` reads the text to the end -/
def closedChk (t : List Char) : Bool :=
  match parseCat (4 * t.length + 1) t with | some (_, []) => true | _ => false

theorem closed_of_chk {t : List Char} (h : closedChk t = true) : Closed t := by
  unfold closedChk at h
  split at h
  · rename_i a heq
    obtain ⟨sh, e, _⟩ := ((parse_iff _).2.1 _ _ _).1 heq
    exact ⟨a, sh, by simpa using e.symm⟩
  · cases h

theorem parseRx_of_closed {t : List Char} : Closed t → (parseRx t).isSome = true
  | ⟨a, sh, e⟩ => by rw [parseRx_iff.2 ⟨.one sh, e⟩]; rfl

/-- non-vacuity: a group with `?` and a set are closed texts, an unbalanced one is not accepted by the test -/
example : Closed ['(', 'a', '|', 'b', ')', '?', '[', 'c', 'd', ']'] := closed_of_chk (by decide +kernel)
example : closedChk ['(', 'a'] = false := by decide +kernel

end Riti
