/-
Props/C04 — a fixed-layout key emits exactly the text the layout file assigns to it.  The key table is the one
transcribed from riti.h (`layout_table_is_spec`, `header_eq_rust`) and AltGr alone chooses the plane
(`plane_ignores_shift`, `altgr_is_bit1`), so `get_char_for_key` is the look-up of `get_char_spec`, for every key
code; a key outside the table and an empty entry are inert.  With all helpers off the value found becomes the
composition (`idle_key_appends_partial`; not every value: `idle_value_cut`).
-/
import RitiModel.Spec.LayoutSpec
import RitiModel.Lemmas.Fixed
namespace Riti.C04
open Riti Riti.Gen

/-- the regenerated `get_char_for_key` rows are the table transcribed from riti.h -/
theorem layout_table_is_spec : Gen.layoutRows = Spec.layoutRows := by decide +kernel

/-- the numbers front-ends compile against (riti.h) are the numbers the library matches on -/
theorem header_eq_rust : Gen.vcHeader = Gen.vcRust ∧ Gen.vcNamesAgree = true := by decide +kernel

/-- Shift never selects the plane; AltGr alone does -/
theorem plane_ignores_shift (s a : Bool) : planeOf s a = if a then .altGr else .normal := by
  cases s <;> cases a <;> rfl

/-- AltGr is bit 1 of the modifier byte; every other bit (Shift, stray high bits) is irrelevant -/
theorem altgr_is_bit1 (m : Nat) : (getModifiers m).2 = ((m / 2) % 2 == 1) := by
  simp [getModifiers, modAltGrBit]

/-- `get_char_for_key` for **every** key code (not only 0…65535), every modifier byte and both
    number-pad settings, in terms of the specification table. -/
theorem get_char_spec (layout : Layout) (key m : Nat) (numpad : Bool) :
    getCharForKey layout key (getModifiers m) numpad =
      match lookupRow Spec.layoutRows key with
      | none => none
      | some (n, false) =>
          nonEmpty (layout ("Key_" ++ n.str ++ "_" ++ (if (m / 2) % 2 == 1 then "AltGr" else "Normal")))
      | some (n, true) => if numpad then nonEmpty (layout n.str) else none := by
  unfold getCharForKey
  rw [layout_table_is_spec]
  cases h : lookupRow Spec.layoutRows key with
  | none => rfl
  | some r =>
    obtain ⟨n, b⟩ := r
    cases b with
    | true => rfl
    | false =>
      simp only [layoutEntryName, plane_ignores_shift, altgr_is_bit1]
      by_cases hb : (m / 2 % 2 == 1) = true <;> simp [hb, Plane.str]

/-- a key code outside the table changes nothing -/
theorem unknown_key_inert (layout : Layout) (key : Nat) (mods : Bool × Bool) (numpad : Bool)
    (h : lookupRow Spec.layoutRows key = none) : getCharForKey layout key mods numpad = none := by
  unfold getCharForKey; rw [layout_table_is_spec, h]

/-- an empty assignment is no assignment -/
theorem empty_entry_inert (v : Option (List Char)) : nonEmpty v = none ↔ (v = none ∨ v = some []) := by
  cases v with
  | none => simp [nonEmpty]
  | some l => cases l <;> simp [nonEmpty]

/-- all composition helpers off -/
def helpersOff (cfg : Cfg) : Prop :=
  cfg.fixedVowel = false ∧ cfg.fixedChandra = false ∧ cfg.fixedKar = false ∧ cfg.fixedOldReph = false ∧ cfg.fixedKarOrder = false

/-- From an idle context with the helpers off, a key value `v` becomes the whole composition —
    PARTIAL: proved for values that are a single code point or do not start with a vowel sign.
    (Full statement `∀ v` is false of the code: see `idle_value_cut`.) -/
theorem idle_key_appends_partial (cfg : Cfg) (h : helpersOff cfg) (s : FState)
    (hidle : s.rbuf = [] ∧ s.pending = none) (v : Str)
    (hv : v.length ≤ 1 ∨ ∀ c, v.head? = some c → isKar c = false) :
    (processKeyValue cfg s v).buffer = v ∧ (processKeyValue cfg s v).pending = none := by
  obtain ⟨hb, hp⟩ := hidle
  obtain ⟨h1, h2, h3, h4, h5⟩ := h
  rw [processKeyValue_noOrder h5, hb]
  suffices h : stepBuf cfg [] v = v.reverse from ⟨by simp only [FState.buffer, h, List.reverse_reverse], hp⟩
  by_cases hz : v = zoFola
  · -- U+0000 is not র: no ZWJ
    subst hz; rfl
  by_cases hk : ∀ c, v.head? = some c → isKar c = false
  · -- U+0000 is not a hasanta: no special case applies
    exact (stepBuf_push (rbuf := []) hz (.inl h4) fun c hc => ⟨hk c hc, fun _ => nul_ne_hasanta⟩).trans
      (List.append_nil _)
  · -- a single vowel sign: with the helpers off `karTail` appends it
    have hl := hv.resolve_right hk
    cases v with
    | nil => exact absurd (fun c h => by cases h) hk
    | cons c t =>
      cases t with
      | cons _ _ => simp at hl
      | nil =>
        rw [stepBuf_head hz (.inl h4), if_pos (by simpa using hk)]
        simp [h1, h2, h3, karTail, autoVowelPos, nul_ne_hasanta]

/-- the full statement fails: a layout value of two code points that starts with a vowel sign
    (`াং`) is cut to its first code point (finding F15) -/
theorem idle_value_cut :
    (processKeyValue {} ({} : FState) [cAAKar, cAnushar]).buffer = [cAAKar] := by decide +kernel

/-- `idle_key_appends_partial` at an instance: the reph value (two code points, the first no sign) on a fresh
    state, all helpers off -/
example : (processKeyValue {} ({} : FState) rephValue).buffer = rephValue := by decide +kernel

end Riti.C04
