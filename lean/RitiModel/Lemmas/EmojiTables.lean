/-
Lemmas/EmojiTables — generic facts about `alookupLast` (the `HashMap` built from an array of rows) and about the passage
between texts and their code points; `Serves` says what the three look-up functions of Model/EmojiTables have in common,
and through its lemmas Props/EmojiTables lifts kernel-checked facts about the generated rows (lists of `Nat`) to the
look-up functions over `List Char`.
-/
import RitiModel.Model.EmojiTables
import RitiModel.Lemmas.Store
import RitiModel.Lemmas.Logic
namespace Riti

def validCodes (l : List Nat) : Bool := l.all (fun n => decide (n < 0xD800 ∨ (0xDFFF < n ∧ n < 0x110000)))

theorem codesOf_natsToChars {l : List Nat} (h : validCodes l = true) : codesOf (natsToChars l) = l := by
  induction l with
  | nil => rfl
  | cons n r ih =>
    simp only [validCodes, List.all_cons, Bool.and_eq_true, decide_eq_true_eq] at h
    have hr : validCodes r = true := h.2
    simp only [natsToChars, codesOf, List.map_cons] at ih ⊢
    rw [toNat_ofNat_of_valid h.1, ih hr]

theorem natsToChars_codesOf (s : List Char) : natsToChars (codesOf s) = s := by
  induction s with
  | nil => rfl
  | cons c r ih =>
    simp only [natsToChars, codesOf, List.map_cons] at ih ⊢
    rw [Char.ofNat_toNat, ih]

theorem codesOf_inj {s t : List Char} (h : codesOf s = codesOf t) : s = t := by
  rw [← natsToChars_codesOf s, ← natsToChars_codesOf t, h]

theorem eq_natsToChars_of_codesOf {s : List Char} {l : List Nat} (h : codesOf s = l) : s = natsToChars l := by
  rw [← h, natsToChars_codesOf]

section alookupLast
variable {α β : Type} [BEq α] [LawfulBEq α]

theorem alookupLast_mem {l : List (α × β)} {a : α} {v : β} (h : alookupLast l a = some v) : (a, v) ∈ l := by
  induction l with
  | nil => simp [alookupLast] at h
  | cons p r ih =>
    simp only [alookupLast] at h
    split at h
    · next hw => exact List.mem_cons_of_mem _ (ih (hw.trans h))
    · split at h
      · next hk => cases h; rw [← eq_of_beq hk]; exact List.mem_cons_self
      · cases h

theorem alookupLast_eq_none_iff {l : List (α × β)} {a : α} : alookupLast l a = none ↔ a ∉ l.map Prod.fst := by
  induction l with
  | nil => simp [alookupLast]
  | cons p r ih =>
    simp only [alookupLast, List.map_cons, List.mem_cons, not_or, ← ih]
    cases alookupLast r a <;> simp [eq_comm (a := a)]

theorem alookupLast_eq_alookup_of_nodup {l : List (α × β)} (hd : (l.map Prod.fst).Nodup) (a : α) :
    alookupLast l a = alookup l a := by
  induction l with
  | nil => rfl
  | cons p r ih =>
    simp only [List.map_cons, List.nodup_cons] at hd
    simp only [alookupLast, alookup, ← ih hd.2]
    by_cases hk : p.1 = a
    · simp [hk, alookupLast_eq_none_iff.mpr (hk ▸ hd.1)]
    · cases alookupLast r a <;> simp [hk]

theorem alookupLast_of_mem_nodup {l : List (α × β)} (hd : (l.map Prod.fst).Nodup) {k : α} {v : β} (h : (k, v) ∈ l) :
    alookupLast l k = some v := by
  rw [alookupLast_eq_alookup_of_nodup hd]; exact AList.alookup_of_mem_nodup hd h

end alookupLast

/-- `L` is the look-up in the array `rows` as the crate does it (the query as code points, the last row with the key wins,
    the answer through `f`), no key occurs twice and every key is made of scalar values -/
structure Serves {β γ : Type} (L : List Char → Option γ) (rows : List (List Nat × β)) (f : β → γ) : Prop where
  eq : ∀ s, L s = (alookupLast rows (codesOf s)).map f
  nodup : (rows.map Prod.fst).Nodup
  valid : ∀ row ∈ rows, validCodes row.1 = true

namespace Serves
variable {β γ : Type} {L : List Char → Option γ} {rows : List (List Nat × β)} {f : β → γ} (h : Serves L rows f)
include h

theorem found {row : List Nat × β} (hrow : row ∈ rows) : L (natsToChars row.1) = some (f row.2) := by
  rw [h.eq, codesOf_natsToChars (h.valid row hrow), alookupLast_of_mem_nodup h.nodup (v := row.2) hrow]
  rfl

theorem iff {s : List Char} {e : γ} : L s = some e ↔ ∃ row ∈ rows, s = natsToChars row.1 ∧ e = f row.2 := by
  constructor
  · intro hs
    obtain ⟨v, hw, rfl⟩ := Option.map_eq_some_iff.mp (h.eq s ▸ hs)
    exact ⟨(codesOf s, v), alookupLast_mem hw, (natsToChars_codesOf s).symm, rfl⟩
  · rintro ⟨row, hrow, rfl, rfl⟩
    exact h.found hrow

/-- "the last row with the key" is "the first row with the key": the order in which the `HashMap` is filled does not matter -/
theorem first (s : List Char) : L s = (alookup rows (codesOf s)).map f := by
  rw [h.eq, alookupLast_eq_alookup_of_nodup h.nodup]

theorem eq_none_iff {s : List Char} : L s = none ↔ codesOf s ∉ rows.map Prod.fst := by
  rw [h.eq, Option.map_eq_none_iff, alookupLast_eq_none_iff]

end Serves

theorem mem_iff_of_filter_eq {α : Type} {q : α → Bool} {l ex : List α} (h : l.filter q = ex) {a : α} :
    a ∈ ex ↔ a ∈ l ∧ q a = true := h ▸ List.mem_filter

end Riti
