/-
Lemmas/JsonValue — the printer for `JVal` (compact, pretty, and with ARBITRARY whitespace between
the tokens: `Deco`), well-formedness of a value, and read-back: the reader of Model/JsonValue
returns exactly the value that was printed (`pValue_printW`, by recursion on the value;
`parseValue_printW` for a whole document).  A number is the one token whose end the reader finds
by looking at what follows, so the number reader is shown stable under appended text that does not
continue a number (`numStop`, `lexNumber_ext`), and what the printer writes after a value is such a
text.  Last: the map a member list denotes (`dedup`: the last duplicate wins) for `asStringMap`.
-/
import RitiModel.Model.JsonValue
import RitiModel.Lemmas.Json
import RitiModel.Lemmas.JsonValueTotal
import RitiModel.Lemmas.Store
namespace Riti.JsonValue
open Riti.Json (Str skipWs isWs parseString printString)

/-! ### printing -/

/-- a whitespace decoration: the whitespace written at slot `k` of the node whose path from the
    root is `p` (child indices, innermost first).  Slots: 0 inside an empty container; 1 before
    the comma that precedes this child; 2 before this child (after `[` `{` `,`); 3 between key and
    colon; 4 after the colon; 5 before the closing bracket (on the index one past the last child).
    Every token position of a document has its own (path, slot), so EVERY way of putting
    whitespace between the tokens of a document is one such function. -/
abbrev Deco := List Nat → Nat → List Char

mutual
/-- a value printed under the decoration `w`; `p` = path of this value -/
def printW (w : Deco) : List Nat → JVal → List Char
  | _, .null => ['n', 'u', 'l', 'l']
  | _, .bool true => ['t', 'r', 'u', 'e']
  | _, .bool false => ['f', 'a', 'l', 's', 'e']
  | _, .num lx => lx
  | _, .str s => printString s
  | p, .arr [] => '[' :: (w p 0 ++ [']'])
  | p, .arr (v :: vs) => '[' :: (w (0 :: p) 2 ++ (printW w (0 :: p) v ++ printElemsW w p 1 vs))
  | p, .obj [] => '{' :: (w p 0 ++ ['}'])
  | p, .obj ((k, v) :: ms) =>
    '{' :: (w (0 :: p) 2 ++ (printString k ++ (w (0 :: p) 3 ++ ':' :: (w (0 :: p) 4 ++ (printW w (0 :: p) v ++ printMembersW w p 1 ms)))))
/-- the elements after the first (each preceded by a comma) and the closing bracket; `i` = index
    of the next element -/
def printElemsW (w : Deco) : List Nat → Nat → List JVal → List Char
  | p, i, [] => w (i :: p) 5 ++ [']']
  | p, i, v :: vs => w (i :: p) 1 ++ ',' :: (w (i :: p) 2 ++ (printW w (i :: p) v ++ printElemsW w p (i + 1) vs))
/-- the members after the first and the closing brace -/
def printMembersW (w : Deco) : List Nat → Nat → List (Str × JVal) → List Char
  | p, i, [] => w (i :: p) 5 ++ ['}']
  | p, i, (k, v) :: ms =>
    w (i :: p) 1 ++ ',' :: (w (i :: p) 2 ++ (printString k ++ (w (i :: p) 3 ++ ':' :: (w (i :: p) 4 ++ (printW w (i :: p) v ++ printMembersW w p (i + 1) ms)))))
end

/-- no whitespace at all -/
def compactDeco : Deco := fun _ _ => []

/-- **the canonical printer**: compact, like `serde_json::to_string` (for a `Value` whose numbers
    print as their lexemes) -/
def printValue (v : JVal) : List Char := printW compactDeco [] v

/-- `serde_json::to_string_pretty` with an indentation of `ind` spaces (serde_json: 2; the bundled
    layout files: 4): a line break and the indentation of the child before every child, a line
    break and the indentation of the container before its closing bracket, one space after the
    colon, nothing inside an empty container -/
def prettyDeco (ind : Nat) : Deco := fun p k =>
  if k = 2 then '\n' :: List.replicate (ind * p.length) ' '
  else if k = 5 then '\n' :: List.replicate (ind * (p.length - 1)) ' '
  else if k = 4 then [' ']
  else []

def printPretty (ind : Nat) (v : JVal) : List Char := printW (prettyDeco ind) [] v

/-! ### well-formed values -/

/-- a number lexeme is valid when the lexer reads exactly it (JSON grammar, at most 200 integer
    digits, at most 2 exponent digits) -/
def validNumber (lx : List Char) : Prop := lexNumber lx = .ok (lx, [])

mutual
/-- every number lexeme in the value is valid -/
def JVal.wf : JVal → Prop
  | .num lx => validNumber lx
  | .arr l => wfList l
  | .obj ms => wfMembers ms
  | _ => True
def wfList : List JVal → Prop
  | [] => True
  | v :: vs => v.wf ∧ wfList vs
def wfMembers : List (Str × JVal) → Prop
  | [] => True
  | (_, v) :: ms => v.wf ∧ wfMembers ms
end

mutual
/-- nesting depth of containers: 0 for a scalar, 1 for a flat array or object -/
def JVal.depth : JVal → Nat
  | .arr l => depthList l + 1
  | .obj ms => depthMembers ms + 1
  | _ => 0
def depthList : List JVal → Nat
  | [] => 0
  | v :: vs => max v.depth (depthList vs)
def depthMembers : List (Str × JVal) → Nat
  | [] => 0
  | (_, v) :: ms => max v.depth (depthMembers ms)
end

/-! ### whitespace -/

/-- a text of JSON whitespace only -/
def AllWs (w : List Char) : Prop := ∀ c ∈ w, isWs c = true

theorem allWs_nil : AllWs [] := nofun

theorem skipWs_append_ws {w t : List Char} (hw : AllWs w) : skipWs (w ++ t) = skipWs t := by
  induction w with
  | nil => rfl
  | cons c cs ih =>
    have hc : isWs c = true := hw c (by simp)
    have hcs : AllWs cs := fun x hx => hw x (by simp [hx])
    simp [skipWs, hc, ih hcs]

theorem skipWs_deco {w : Deco} (hw : ∀ p k, AllWs (w p k)) (p : List Nat) (k : Nat) (t : List Char) :
    skipWs (w p k ++ t) = skipWs t := skipWs_append_ws (hw p k)

theorem skipWs_cons_of_not_ws (c : Char) (t : List Char) (h : isWs c = false) : skipWs (c :: t) = c :: t := by
  simp [skipWs, h]

theorem pValue_skip (w t : List Char) (hw : AllWs w) (f d : Nat) : pValue f d (w ++ t) = pValue f d t := by
  cases f with
  | zero => rfl
  | succ f => rw [pValue, pValue, skipWs_append_ws hw]

theorem pElems_skip (w t : List Char) (hw : AllWs w) (f d : Nat) : pElems f d (w ++ t) = pElems f d t := by
  cases f with
  | zero => rfl
  | succ f => rw [pElems, pElems, skipWs_append_ws hw]

theorem pMembers_skip (w t : List Char) (hw : AllWs w) (f d : Nat) : pMembers f d (w ++ t) = pMembers f d t := by
  cases f with
  | zero => rfl
  | succ f => rw [pMembers, pMembers, skipWs_append_ws hw]

theorem pMemberWith_skip {pv : List Char → R (JVal × List Char)} {w t : List Char} (hw : AllWs w) :
    pMemberWith pv (w ++ t) = pMemberWith pv t := by
  simp only [pMemberWith, parseString, skipWs_append_ws hw]

theorem skipWs_idem (t : List Char) : skipWs (skipWs t) = skipWs t := by
  induction t with
  | nil => rfl
  | cons c r ih =>
    rw [skipWs]; split
    · exact ih
    · next h => rw [skipWs, if_neg h]

theorem pValue_skipWs (f d : Nat) (t : List Char) : pValue f d (skipWs t) = pValue f d t := by
  cases f with
  | zero => rfl
  | succ f => rw [pValue, pValue, skipWs_idem]

/-! ### numbers -/

/-- the text after a number does not continue it: it does not start with a digit, `.`, `e`, `E` -/
def numStop (rest : List Char) : Prop :=
  ∀ c, rest.head? = some c → isDigit c = false ∧ c ≠ '.' ∧ c ≠ 'e' ∧ c ≠ 'E'

theorem digits_ext (a : List Char) {rest : List Char} (hs : numStop rest) :
    digits (a ++ rest) = ((digits a).1, (digits a).2 ++ rest) := by
  induction a with
  | nil =>
    cases rest with
    | nil => rfl
    | cons c r => simp [digits, (hs c rfl).1]
  | cons c cs ih =>
    by_cases hc : isDigit c = true
    · simp [digits, hc, ih]
    · simp [digits, hc]

theorem lexExp_stop {rest : List Char} (hs : numStop rest) : lexExp rest = .ok ([], 0, rest) := by
  cases rest with
  | nil => rfl
  | cons c r => simp [lexExp, hs c rfl]

theorem lexFracExp_stop {rest : List Char} (hs : numStop rest) : lexFracExp rest = .ok ([], 0, rest) := by
  cases rest with
  | nil => rfl
  | cons c r => rw [lexFracExp, if_neg (hs c rfl).2.1, lexExp_stop hs]

/-! The parts of the number reader on a text extended by something that does not continue a number: what they answer
    on `a` they answer on `a ++ rest`, with `rest` appended to what is left.  Each along the definition, one case per
    accepting branch. -/

theorem lexExp_ext {a rest : List Char} (hs : numStop rest) {b : List Char × Nat × List Char} :
    lexExp a = .ok b → lexExp (a ++ rest) = .ok (b.1, b.2.1, b.2.2 ++ rest) := by
  fun_cases lexExp a with
  | case1 => rintro ⟨⟩; exact lexExp_stop hs
  | case4 e he s r hg d hd => rintro ⟨⟩; simp only [d] at hd ⊢; simp [lexExp, he, hg, hd, digits_ext r hs]
  | case6 e he s r hg d hd =>
    rintro ⟨⟩; simp only [d] at hd ⊢
    simp [lexExp, he, hg, hd, show digits (s :: (r ++ rest)) = _ from digits_ext (s :: r) hs]
  | case7 e r he => rintro ⟨⟩; simp [lexExp, he]
  | _ => nofun

theorem lexFracExp_ext {a rest : List Char} (hs : numStop rest) {b : List Char × Nat × List Char} :
    lexFracExp a = .ok b → lexFracExp (a ++ rest) = .ok (b.1, b.2.1, b.2.2 ++ rest) := by
  fun_cases lexFracExp a with
  | case1 => rintro ⟨⟩; exact lexFracExp_stop hs
  | case4 r d hd ex n r' hx =>
    rintro ⟨⟩; simp only [d] at hd hx ⊢
    simp [lexFracExp, hd, digits_ext r hs, lexExp_ext hs hx]
  | case5 c r hc => rw [List.cons_append, lexFracExp, if_neg hc]; exact lexExp_ext hs
  | _ => nofun

theorem lexInt_ext {a rest : List Char} (hs : numStop rest) {b : List Char × List Char} :
    lexInt a = .ok b → lexInt (a ++ rest) = .ok (b.1, b.2 ++ rest) := by
  fun_cases lexInt a with
  | case2 =>
    rintro ⟨⟩
    match rest, hs with
    | [], _ => rfl
    | d :: r1, hs => simp [lexInt, (hs d rfl).1]
  | case4 d r1 hd => rintro ⟨⟩; simp [lexInt, hd]
  | case5 c r hz hc => rintro ⟨⟩; simp [lexInt, hz, hc, digits_ext r hs]
  | _ => nofun

theorem lexNumberFrom_ext {sign t1 rest : List Char} (hs : numStop rest) {b : List Char × List Char} :
    lexNumberFrom sign t1 = .ok b → lexNumberFrom sign (t1 ++ rest) = .ok (b.1, b.2 ++ rest) := by
  fun_cases lexNumberFrom sign t1 with
  | case3 int r hi fe n r' hf hn => rintro ⟨⟩; simp [lexNumberFrom, lexInt_ext hs hi, lexFracExp_ext hs hf, hn]
  | _ => nofun

theorem lexNumber_ext {a rest : List Char} (hs : numStop rest) {b : List Char × List Char} :
    lexNumber a = .ok b → lexNumber (a ++ rest) = .ok (b.1, b.2 ++ rest) := by
  cases a with
  | nil => nofun
  | cons c r0 =>
    rw [List.cons_append, lexNumber_cons, lexNumber_cons]
    split
    · exact lexNumberFrom_ext hs
    · exact lexNumberFrom_ext hs

theorem validNumber_head (lx : List Char) (hv : validNumber lx) :
    ∃ c r, lx = c :: r ∧ (c = '-' ∨ isDigit c = true) := by
  cases lx with
  | nil => cases hv
  | cons c r =>
    refine ⟨c, r, rfl, Decidable.or_iff_not_imp_left.2 fun hm => Decidable.byContradiction fun hd => ?_⟩
    -- neither a sign nor a digit (so not `0` either): the integer part fails
    have hz : c ≠ '0' := fun e => hd (e ▸ rfl)
    simp [validNumber, lexNumber_cons, hm, lexNumberFrom, lexInt, hz, hd] at hv

/-! ### texts that do not continue a number -/

theorem isWs_numStop (x : Char) (h : isWs x = true) : isDigit x = false ∧ x ≠ '.' ∧ x ≠ 'e' ∧ x ≠ 'E' := by
  simp only [isWs, Bool.or_eq_true, decide_eq_true_eq] at h
  rcases h with ((rfl | rfl) | rfl) | rfl <;> decide

theorem isDigit_not_ws (c : Char) (h : isDigit c = true) : isWs c = false := by
  cases hw : isWs c with
  | false => rfl
  | true => have := (isWs_numStop c hw).1; simp [h] at this

theorem numStop_ws_append {w t : List Char} (hw : AllWs w) (ht : numStop t) : numStop (w ++ t) := by
  cases w with
  | nil => exact ht
  | cons y ys => intro x hx; cases hx; exact isWs_numStop _ (hw _ (by simp))

theorem numStop_ws_sep {w : List Char} {c : Char} {t : List Char} (hw : AllWs w)
    (hc : c = ',' ∨ c = ']' ∨ c = '}') : numStop (w ++ c :: t) := by
  refine numStop_ws_append hw fun x hx => ?_
  cases hx
  rcases hc with rfl | rfl | rfl <;> decide

theorem numStop_ws (w : List Char) (hw : AllWs w) : numStop w :=
  List.append_nil w ▸ numStop_ws_append hw nofun

theorem printElemsW_numStop {w : Deco} (hw : ∀ p k, AllWs (w p k)) {p : List Nat} {i : Nat} {vs : List JVal} {rest : List Char} :
    numStop (printElemsW w p i vs ++ rest) := by
  cases vs with
  | nil => simp only [printElemsW, List.append_assoc, List.cons_append, List.nil_append]; exact numStop_ws_sep (hw _ _) (by simp)
  | cons v vs => simp only [printElemsW, List.append_assoc, List.cons_append]; exact numStop_ws_sep (hw _ _) (by simp)

theorem printMembersW_numStop {w : Deco} (hw : ∀ p k, AllWs (w p k)) {p : List Nat} {i : Nat} {ms : List (Str × JVal)} {rest : List Char} :
    numStop (printMembersW w p i ms ++ rest) := by
  cases ms with
  | nil => simp only [printMembersW, List.append_assoc, List.cons_append, List.nil_append]; exact numStop_ws_sep (hw _ _) (by simp)
  | cons kv ms =>
    obtain ⟨k, v⟩ := kv
    simp only [printMembersW, List.append_assoc, List.cons_append]; exact numStop_ws_sep (hw _ _) (by simp)

/-! ### reading back a scalar and one member -/

theorem pValue_num (f d : Nat) (lx rest : List Char) (hv : validNumber lx) (hs : numStop rest) :
    pValue (f + 1) d (lx ++ rest) = .ok (.num lx, rest) := by
  obtain ⟨c, r, rfl, hc⟩ := validNumber_head lx hv
  have hne : ∀ x, ¬ (x = '-' ∨ isDigit x = true) → c ≠ x := fun x hx e => hx (e ▸ hc)
  have hws : isWs c = false := by
    rcases hc with rfl | hd
    · decide
    · exact isDigit_not_ws c hd
  rw [List.cons_append, pValue, skipWs_cons_of_not_ws _ _ hws]
  dsimp only
  -- `c` is none of `"` `[` `{` `n` `t` `f`, which the reader tests before it tries a number
  rw [if_neg (hne _ (by decide)), if_neg (hne _ (by decide)), if_neg (hne _ (by decide)), if_neg (hne _ (by decide)),
    if_neg (hne _ (by decide)), if_neg (hne _ (by decide)), if_pos hc, ← List.cons_append, lexNumber_ext hs hv]
  rfl

theorem pValue_str (f d : Nat) (s : Str) (rest : List Char) :
    pValue (f + 1) d (printString s ++ rest) = .ok (.str s, rest) := by
  simp [pValue, printString, Riti.Json.skipWs_quote, Riti.Json.parseBody_printBody]

theorem pMemberWith_print {pv : List Char → R (JVal × List Char)} (k : Str) {w3 T R' : List Char} {v : JVal}
    (h3 : AllWs w3) (hv : pv T = .ok (v, R')) :
    pMemberWith pv (printString k ++ (w3 ++ ':' :: T)) = .ok ((k, v), R') := by
  simp only [pMemberWith, Riti.Json.parseString_printString, skipWs_append_ws h3,
    skipWs_cons_of_not_ws ':' T (by decide), if_true, hv]

/-! ### reading back a printed value -/

theorem pValue_ok_head {f d : Nat} {t : List Char} {x : JVal × List Char} (h : pValue f d t = .ok x) :
    ∃ c r, skipWs t = c :: r ∧ c ≠ ']' := by
  cases f with
  | zero => cases h
  | succ f =>
    rw [pValue] at h
    cases hs : skipWs t with
    | nil => rw [hs] at h; cases h
    | cons c r =>
      refine ⟨c, r, rfl, ?_⟩
      rintro rfl
      rw [hs] at h
      simp [isDigit] at h

mutual
/-- **read-back**: the reader, started on a well-formed value printed under ANY whitespace
    decoration and followed by any text `rest` (one that does not continue a number, if the value
    is a number), returns the value and stops exactly in front of `rest` — provided the value is
    shallower than the remaining recursion depth `d` and the fuel exceeds the length of the text.
    In every case `simp` runs one step of the reader on the tokens the printer wrote, up to the
    parts, which are read back by recursion (`iv`, `ie`, `im`). -/
theorem pValue_printW (w : Deco) (hw : ∀ p k, AllWs (w p k)) :
    (v : JVal) → (p : List Nat) → (f d : Nat) → (rest : List Char) → v.wf → v.depth < d →
      ((∃ lx, v = .num lx) → numStop rest) → (printW w p v).length + rest.length < f →
      pValue f d (printW w p v ++ rest) = .ok (v, rest)
  | _, _, 0, _, _, _, _, _, hf => absurd hf (Nat.not_lt_zero _)
  | .null, p, f + 1, d, rest, _, _, _, _ => rfl
  | .bool true, p, f + 1, d, rest, _, _, _, _ => rfl
  | .bool false, p, f + 1, d, rest, _, _, _, _ => rfl
  | .num lx, p, f + 1, d, rest, hwf, _, hs, _ => pValue_num f d lx rest hwf (hs ⟨lx, rfl⟩)
  | .str s, p, f + 1, d, rest, _, _, _, _ => pValue_str f d s rest
  | .arr [], p, f + 1, d, rest, _, hd, _, _ => by
    simp only [JVal.depth, depthList] at hd
    simp [printW, pValue, skipWs, isWs, show ¬ d ≤ 1 by omega, skipWs_deco hw]
  | .arr (v :: vs), p, f + 1, d, rest, hwf, hd, _, hf => by
    simp only [JVal.depth, depthList] at hd
    simp only [printW, List.length_cons, List.length_append] at hf
    have iv := pValue_printW w hw v (0 :: p) f (d - 1) (printElemsW w p 1 vs ++ rest) hwf.1 (by omega)
      (fun _ => printElemsW_numStop hw) (by simp only [List.length_append]; omega)
    have ie := pElems_printW w hw vs p 1 f (d - 1) rest hwf.2 (by omega) (by omega)
    -- the reader looks for `]` after the whitespace and reads the element from there
    rw [← pValue_skip _ _ (hw (0 :: p) 2)] at iv
    obtain ⟨c, r, hs, hc⟩ := pValue_ok_head iv
    rw [← pValue_skipWs, hs] at iv
    simp [printW, pValue, skipWs, isWs, show ¬ d ≤ 1 by omega, hs, hc, iv, ie]
  | .obj [], p, f + 1, d, rest, _, hd, _, _ => by
    simp only [JVal.depth, depthMembers] at hd
    simp [printW, pValue, skipWs, isWs, show ¬ d ≤ 1 by omega, skipWs_deco hw]
  | .obj ((k, v) :: ms), p, f + 1, d, rest, hwf, hd, _, hf => by
    simp only [JVal.depth, depthMembers] at hd
    simp only [printW, List.length_cons, List.length_append] at hf
    have iv := pValue_printW w hw v (0 :: p) f (d - 1) (printMembersW w p 1 ms ++ rest) hwf.1 (by omega)
      (fun _ => printMembersW_numStop hw) (by simp only [List.length_append]; omega)
    have im := pMembers_printW w hw ms p 1 f (d - 1) rest hwf.2 (by omega) (by omega)
    have hm := pMemberWith_print k (hw (0 :: p) 3) ((pValue_skip _ _ (hw (0 :: p) 4) _ _).trans iv)
    simp only [printString, List.cons_append] at hm
    simp [printW, printString, pValue, skipWs, isWs, show ¬ d ≤ 1 by omega, skipWs_deco hw, hm, im]
/-- read-back of the elements after the first and the closing bracket -/
theorem pElems_printW (w : Deco) (hw : ∀ p k, AllWs (w p k)) :
    (vs : List JVal) → (p : List Nat) → (i f d : Nat) → (rest : List Char) → wfList vs → depthList vs < d →
      (printElemsW w p i vs).length + rest.length < f →
      pElems f d (printElemsW w p i vs ++ rest) = .ok (vs, rest)
  | _, _, _, 0, _, _, _, _, hf => absurd hf (Nat.not_lt_zero _)
  | [], p, i, f + 1, d, rest, _, _, _ => by
    simp [printElemsW, pElems, skipWs, isWs, skipWs_deco hw]
  | v :: vs, p, i, f + 1, d, rest, hwf, hd, hf => by
    simp only [depthList] at hd
    simp only [printElemsW, List.length_cons, List.length_append] at hf
    have iv := pValue_printW w hw v (i :: p) f d (printElemsW w p (i + 1) vs ++ rest) hwf.1 (by omega)
      (fun _ => printElemsW_numStop hw) (by simp only [List.length_append]; omega)
    have ie := pElems_printW w hw vs p (i + 1) f d rest hwf.2 (by omega) (by omega)
    simp [printElemsW, pElems, skipWs, isWs, skipWs_deco hw, pValue_skip _ _ (hw (i :: p) 2), iv, ie]
/-- read-back of the members after the first and the closing brace -/
theorem pMembers_printW (w : Deco) (hw : ∀ p k, AllWs (w p k)) :
    (ms : List (Str × JVal)) → (p : List Nat) → (i f d : Nat) → (rest : List Char) → wfMembers ms → depthMembers ms < d →
      (printMembersW w p i ms).length + rest.length < f →
      pMembers f d (printMembersW w p i ms ++ rest) = .ok (ms, rest)
  | _, _, _, 0, _, _, _, _, hf => absurd hf (Nat.not_lt_zero _)
  | [], p, i, f + 1, d, rest, _, _, _ => by
    simp [printMembersW, pMembers, skipWs, isWs, skipWs_deco hw]
  | (k, v) :: ms, p, i, f + 1, d, rest, hwf, hd, hf => by
    simp only [depthMembers] at hd
    simp only [printMembersW, List.length_cons, List.length_append] at hf
    have iv := pValue_printW w hw v (i :: p) f d (printMembersW w p (i + 1) ms ++ rest) hwf.1 (by omega)
      (fun _ => printMembersW_numStop hw) (by simp only [List.length_append]; omega)
    have im := pMembers_printW w hw ms p (i + 1) f d rest hwf.2 (by omega) (by omega)
    have hm := pMemberWith_print k (hw (i :: p) 3) ((pValue_skip _ _ (hw (i :: p) 4) _ _).trans iv)
    simp [printMembersW, pMembers, skipWs, isWs, skipWs_deco hw, pMemberWith_skip (hw (i :: p) 2), hm, im]
end

/-- **the document reader on a printed document** with any text `g` after it: the value if `g` is whitespace, a syntax
    error otherwise (`Deserializer::end`) -/
theorem parseValue_printW {w : Deco} (hw : ∀ p k, AllWs (w p k)) {lead : List Char} (hl : AllWs lead) {v : JVal} (hwf : v.wf)
    (hd : v.depth < depthLimit) {g : List Char} (hg : (∃ lx, v = .num lx) → numStop g) :
    parseValue (lead ++ (printW w [] v ++ g)) = if skipWs g = [] then .ok v else .error .notJson := by
  unfold parseValue
  rw [pValue_skip lead _ hl, pValue_printW w hw v [] _ depthLimit g hwf hd hg (by simp only [List.length_append]; omega)]

/-! ### the map a member list denotes -/

/-- with duplicate member names the LAST one wins (`BTreeMap::insert` / `HashMap::insert` in document order) -/
theorem alookup_dedup {β : Type} (ms : List (Str × β)) (k : Str) : alookup (dedup ms) k = lookupLast ms k := by
  rw [dedup, Riti.AList.alookup_foldl_ainsert]
  exact Option.or_none

/-- members all of whose values are strings, as JSON values -/
def strMembers (lay : List (Str × Str)) : List (Str × JVal) := lay.map (fun kv => (kv.1, JVal.str kv.2))

theorem dedup_map {β γ : Type} (g : β → γ) (ms : List (Str × β)) :
    dedup (ms.map (fun kv => (kv.1, g kv.2))) = (dedup ms).map (fun kv => (kv.1, g kv.2)) := by
  unfold dedup
  rw [List.foldl_map]
  exact List.foldl_hom (List.map fun kv : Str × β => (kv.1, g kv.2)) (init := [])
    fun st kv => AList.ainsert_map g st kv.1 kv.2

theorem allStrings_strMembers (lay : List (Str × Str)) : allStrings (strMembers lay) = some lay := by
  induction lay with
  | nil => rfl
  | cons kv l ih =>
    obtain ⟨k, s⟩ := kv
    simp only [strMembers, List.map_cons] at ih ⊢
    simp [allStrings, ih]

/-- `from_value::<HashMap<String,String>>` of an object of strings: the map with the last binding of every name -/
theorem asStringMap_strMembers (lay : List (Str × Str)) : asStringMap (.obj (strMembers lay)) = some (dedup lay) := by
  simp only [asStringMap, strMembers]
  rw [dedup_map JVal.str lay]
  exact allStrings_strMembers (dedup lay)

theorem allStrings_some {ms : List (Str × JVal)} {m : List (Str × Str)} : allStrings ms = some m → ms = strMembers m := by
  fun_induction allStrings ms generalizing m with
  | case1 => rintro ⟨⟩; rfl
  | case3 k s r m' hr ih => rintro ⟨⟩; rw [ih hr]; rfl
  | _ => nofun

theorem alookup_strMembers (m : List (Str × Str)) (k : Str) : alookup (strMembers m) k = (alookup m k).map JVal.str := by
  induction m with
  | nil => rfl
  | cons kv r ih =>
    obtain ⟨a, b⟩ := kv
    simp only [strMembers, List.map_cons, alookup] at ih ⊢
    split
    · rfl
    · exact ih

theorem asStringMap_obj_some {lms : List (Str × JVal)} {m : List (Str × Str)} (h : asStringMap (.obj lms) = some m) (k : Str) :
    lookupLast lms k = (alookup m k).map JVal.str := by
  simp only [asStringMap] at h
  rw [← alookup_dedup, allStrings_some h, alookup_strMembers]

end Riti.JsonValue
