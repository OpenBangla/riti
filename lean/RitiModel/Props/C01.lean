/-
Props/C01 — no in-contract sequence of API calls can crash the engine.
The model carries every remaining Rust panic site as an `Except` error; the theorems show that
no in-contract call reaches one, for every world (data, layouts, sorter), configuration,
user-file state and history.
-/
import RitiModel.Lemmas.PhoneticStep
import RitiModel.Lemmas.Keys
import RitiModel.Spec.LayoutSpec
import RitiModel.Gen.PanicSites
namespace Riti.C01
open Riti Riti.Gen

/-- the catch-all arm of `keycode_to_char` does not panic (regenerated from the source) -/
theorem catch_all_does_not_panic : Gen.keyCharFallbackPanics = false := by decide

/-- a regex that does not compile (one word of a couple of thousand characters: `CompiledTooBig`)
    is tolerated at both call sites — regenerated from the source on every run; the model's
    `computeEntry` treats the failure as "no dictionary hits" only because of this -/
theorem regex_failure_tolerated : Gen.regexCompileUnwraps.all (fun b => !b) = true := by decide

/-- every key code published in riti.h either types a character or is one of the two keypad keys
    without one (VC_KP_EQUALS = 3597, VC_KP_ENTER = 3612), which the methods ignore -/
theorem published_keys_covered :
    Spec.published.all (fun k => (alookup keyChar k).isSome || k == 3597 || k == 3612) = true := by decide +kernel

/-- every character a key can put into the phonetic buffer is ASCII, which is what makes the
    byte-index slicing of the Rust code (`middle[i..]`, okkhor's `input[1..]`) safe -/
theorem key_chars_ascii : keyChar.all (fun p => (Char.ofNat p.2).toNat < 128) = true := by decide +kernel

def Ascii (s : Str) : Prop := ∀ c ∈ s, c.toNat < 128

theorem keycodeToChar_ascii (k : Nat) (c : Char) (h : keycodeToChar k = some c) : c.toNat < 128 :=
  keycodeToChar_all (P := (·.toNat < 128)) (fun p hp => of_decide_eq_true (List.all_eq_true.1 key_chars_ascii p hp)) h

/-- the phonetic buffer stays ASCII under every key (the other events only shorten it) -/
theorem buffer_ascii_key (env : Env) (cfg : Cfg) (s : PState) (key sel : Nat) (h : Ascii s.buffer) :
    Ascii (pKey env cfg s key sel).1.buffer := by
  rw [pKey_buffer]
  exact keyBuffer_all (keycodeToChar_ascii _ _) h key

/-- a key without a character is ignored by the phonetic method -/
theorem unknown_key_ignored (env : Env) (cfg : Cfg) (s : PState) (key sel : Nat) (h : keycodeToChar key = none) :
    (pKey env cfg s key sel).1.buffer = s.buffer := by
  rw [pKey_buffer, keyBuffer, h]

/-- in-contract calls (C01's statement): `commit` with an index inside the most recently built
    list (or the preselected one; asked of the phonetic method with dictionary suggestions on,
    the only place where `candidate_committed` indexes the list), `update_engine` with a layout
    that loads; keys, modifier and selection bytes, backspaces and finish are unrestricted. -/
def InContractEv (w : World) (c : Ctx) : Event → Prop
  | .commit i => match c.m with
    | .phonetic s => c.cfg.phoneticSuggestion = true → (i < s.suggestions.length ∨ s.prevSelection = i)
    | .fixed _ _ => True
  | .update _ p => isPhoneticPath p = true ∨ (w.layouts p).isSome = true
  | _ => True

/-- non-vacuity: a commit of index 0 after one key is in contract, for a one-candidate list -/
example : InContractEv ⟨⟨id, fun _ => some [], fun _ => none, fun _ => none, fun _ => none, fun _ => none, fun _ => none, fun s => .ok s, fun _ => []⟩, fun _ => none, sortStable⟩
    ⟨{ phoneticSuggestion := true }, "avro_phonetic", .phonetic { suggestions := [.last ['a'] 2] }⟩ (.commit 0) := by
  simp [InContractEv]

theorem pCommit_total (cfg : Cfg) (s : PState) (i : Nat)
    (h : cfg.phoneticSuggestion = true → (i < s.suggestions.length ∨ s.prevSelection = i)) :
    ∃ r, pCommit cfg s i = .ok r := by
  unfold pCommit
  split
  · next hc =>
    simp only [Bool.and_eq_true, bne_iff_ne, ne_eq] at hc
    rw [List.getElem?_eq_getElem ((h hc.2).resolve_right hc.1)]
    exact ⟨_, rfl⟩
  · exact ⟨_, rfl⟩

/-- one in-contract call returns normally, in every state -/
theorem step_total (w : World) (c : Ctx) (fs : FS) (e : Event) (h : InContractEv w c e) :
    ∃ r, step w c fs e = .ok r := by
  cases e with
  | commit i =>
    cases hm : c.m with
    | fixed l s => simp [step, hm]
    | phonetic s =>
      simp only [InContractEv, hm] at h
      obtain ⟨⟨s', wr⟩, hr⟩ := pCommit_total c.cfg s i h
      simp [step, hm, hr]
  | update cfg p =>
    obtain ⟨m, hmn⟩ : ∃ m, mNew w fs p = some m :=
      Option.isSome_iff_exists.mp (by rw [mNew_isSome]; simpa [InContractEv] using h)
    simp only [step]
    split
    · simp [hmn]
    · cases hm : c.m <;> simp
  -- key, backspace, finish, a change of the files: no panic site on the path
  | _ => cases hm : c.m <;> simp [step, hm]

/-- in-contract histories: every call is in contract in the state it is made in -/
def InContract (w : World) : Ctx → FS → List Event → Prop
  | _, _, [] => True
  | c, fs, e :: es => InContractEv w c e ∧ ∀ c' fs' o, step w c fs e = .ok (c', fs', o) → InContract w c' fs' es

/-- **no_panic**: every in-contract history returns normally — all worlds, configurations,
    user-file states, both methods, no bound on the length -/
theorem no_panic (w : World) (c : Ctx) (fs : FS) (evs : List Event) (h : InContract w c fs evs) :
    ∃ r, runFrom w c fs evs = .ok r := by
  induction evs generalizing c fs with
  | nil => exact ⟨_, rfl⟩
  | cons e es ih =>
    obtain ⟨he, hrest⟩ := h
    obtain ⟨⟨c', fs', o⟩, hs⟩ := step_total w c fs e he
    obtain ⟨⟨c'', fs'', os⟩, hr⟩ := ih c' fs' (hrest c' fs' o hs)
    exact ⟨(c'', fs'', o :: os), by simp [runFrom, hs, hr]⟩

end Riti.C01
