/-
Lemmas/FixedRegex — the pattern `^clean[class]{0,need}$` of the fixed-layout dictionary look-up (src/fixed/search.rs
`search_dictionary`) as an expression of `Model/Regex`:

* `rxLit t`     — the literal text `t` (a concatenation of one-character expressions);
* `rxUpTo a n`  — the bounded repetition `a{0,n}`, unfolded into `n` nested optional groups `(a(a(…)?)?)?`
                  (`Rx` has no repetition operator; this unfolding is the definition of `{0,n}`);
* `rxFixed clean need` — `clean` followed by at most `need` characters of the class.

With them the three facts `Props/FixedRegex` needs from below: a concatenation of one-character words (`flatten_singletons`),
the generated class consists of scalar values (`regexClassSet_valid`), and `rxLit t` is an expression the reader returns, with
text `t` (`shape_rxLit`, `render_rxLit`).  The languages of the building blocks and the statements about the look-up are in
`Props/FixedRegex`.
-/
import RitiModel.Model.Fixed
import RitiModel.Model.Regex
import RitiModel.Lemmas.RegexTotal
namespace Riti
open Gen

/-! ### the expression -/

/-- a literal text: one `chr` per character -/
def rxLit : List Char → Rx
  | [] => .eps
  | c :: cs => .cat (.chr c) (rxLit cs)

/-- `a{0,n}`: at most `n` consecutive matches of `a` -/
def rxUpTo (a : Rx) : Nat → Rx
  | 0 => .eps
  | n + 1 => .opt (.cat a (rxUpTo a n))

/-- the characters between the brackets of the pattern (regenerated from the Rust source as code points) -/
def regexClassChars : List Char := Gen.regexClassSet.map Char.ofNat

/-- `^clean[class]{0,need}$` (whole-string matching: the anchors are implicit in `Rx.matches` / `Lang`) -/
def rxFixed (clean : Str) (need : Nat) : Rx := .cat (rxLit clean) (rxUpTo (.cls regexClassChars) need)

/-- the characters the `regex` crate treats specially in a pattern (`regex_syntax::is_meta_character`):
    `\ . + * ? ( ) | [ ] { } ^ $ # & - ~` -/
def regexCrateMeta (c : Char) : Bool :=
  c = '\\' || c = '.' || c = '+' || c = '*' || c = '?' || c = '(' || c = ')' || c = '|' || c = '[' || c = ']' ||
  c = '{' || c = '}' || c = '^' || c = '$' || c = '#' || c = '&' || c = '-' || c = '~'

/-! ### list facts -/

theorem flatten_singletons {cs : List Char} : ∀ (parts : List (List Char)),
    (∀ p ∈ parts, ∃ x, x ∈ cs ∧ p = [x]) → parts.flatten.length = parts.length ∧ ∀ c ∈ parts.flatten, c ∈ cs
  | [], _ => by simp
  | p :: ps, h => by
    obtain ⟨⟨x, hx, rfl⟩, hps⟩ := List.forall_mem_cons.1 h
    obtain ⟨h1, h2⟩ := flatten_singletons ps hps
    exact ⟨by simp [h1], List.forall_mem_cons.2 ⟨hx, h2⟩⟩

/-! ### the class as characters -/

theorem regexClassSet_valid : ∀ n ∈ regexClassSet, (Char.ofNat n).toNat = n := by decide +kernel

/-! ### the model's reader on a text without special characters -/

theorem render_rxLit : ∀ (t : List Char), (rxLit t).render = t
  | [] => rfl
  | c :: cs => by simp [rxLit, Rx.render, render_rxLit cs]

theorem shape_rxLit : ∀ {t : List Char}, (∀ c ∈ t, rxSpecial c = false) → Rx.Shape .seq (rxLit t)
  | [], _ => .eps
  | c :: _, h => .cat 0 (.chr (h c (List.mem_cons_self ..))) (shape_rxLit fun d hd => h d (List.mem_cons_of_mem _ hd))

end Riti
