/-
Props/FixedRegex — the dictionary look-up of the fixed-layout method IS a regular-expression match.

`search_dictionary` (src/fixed/search.rs) builds `format!("^{}[<class>]{{0,{}}}$", clean, need)` with the `regex` crate and
keeps the dictionary words that match.  The engine model (`Model/Fixed.fixedMatches`) does not build an expression: it
tests "`clean` is a prefix, the rest is at most `need` characters long, all of the class".  Here that shortcut is proved
equal to membership in the textbook language (`Lemmas/Regex.Lang`) of the expression `rxFixed clean need`
= literal `clean` followed by the class repeated `{0,need}` — and to the model's own matcher `Rx.matches` on it.

What remains outside: that the TEXT `^clean[class]{0,need}$` denotes `rxFixed clean need` for the `regex` crate.  Two facts
proved here carry that step: (1) `clean_is_literal` / `cleanString_no_meta` — after `clean_string` the word contains none
of the characters the crate (or the model's reader) treats specially, so the inserted text is read character by character
as literals — for the model's own reader this is `parseRx_literal`: it reads the cleaned word as exactly `rxLit`;
(2) `lang_rxUpTo` — `rxUpTo a n` has the standard meaning of `a{0,n}` (at most `n` consecutive matches of `a`).
Not covered: the size limit of `Regex::new` (a compile error for very long words makes the look-up return nothing).
-/
import RitiModel.Model.Fixed
import RitiModel.Model.Regex
import RitiModel.Lemmas.Regex
import RitiModel.Lemmas.FixedRegex
import RitiModel.Props.Regex
namespace Riti.FixedRegex
open Riti Riti.Gen Riti.Regex

/-! ### 1. the building blocks -/

theorem lang_rxLit {t s : List Char} : Lang (rxLit t) s ↔ s = t := by
  induction t generalizing s with
  | nil => simp [rxLit, lang_eps_iff]
  | cons c cs ih =>
    simp only [rxLit, lang_cat_iff, lang_chr_iff, ih]
    constructor
    · rintro ⟨s1, s2, rfl, rfl, rfl⟩; rfl
    · rintro rfl; exact ⟨[c], cs, rfl, rfl, rfl⟩

/-- `rxUpTo a n` is the bounded repetition `a{0,n}`: its words are the concatenations of at most `n` words of `a` -/
theorem lang_rxUpTo {a : Rx} {n : Nat} {s : List Char} :
    Lang (rxUpTo a n) s ↔
      ∃ parts : List (List Char), parts.length ≤ n ∧ (∀ p ∈ parts, Lang a p) ∧ s = parts.flatten := by
  induction n generalizing s with
  | zero =>
    simp only [rxUpTo, lang_eps_iff, Nat.le_zero, List.length_eq_zero_iff]
    exact ⟨fun h => ⟨[], rfl, nofun, h⟩, fun ⟨_, hl, _, h⟩ => by rw [h, hl]; rfl⟩
  | succ n ih =>
    simp only [rxUpTo, lang_opt_iff, lang_cat_iff, ih]
    constructor
    · rintro (rfl | ⟨s1, _, rfl, h1, parts, hl, hp, rfl⟩)
      · exact ⟨[], Nat.zero_le _, nofun, rfl⟩
      · exact ⟨s1 :: parts, Nat.succ_le_succ hl, List.forall_mem_cons.2 ⟨h1, hp⟩, rfl⟩
    · rintro ⟨_ | ⟨p, ps⟩, hl, hp, rfl⟩
      · exact .inl rfl
      · exact .inr ⟨p, _, rfl, (List.forall_mem_cons.1 hp).1, ps, Nat.le_of_succ_le_succ hl, (List.forall_mem_cons.1 hp).2, rfl⟩

/-- `[cs]{0,n}`: the texts of at most `n` characters, all taken from `cs` -/
theorem lang_rxUpTo_cls {cs : List Char} {n : Nat} {s : List Char} :
    Lang (rxUpTo (.cls cs) n) s ↔ s.length ≤ n ∧ ∀ c ∈ s, c ∈ cs := by
  rw [lang_rxUpTo]
  constructor
  · rintro ⟨parts, hl, hp, rfl⟩
    obtain ⟨h1, h2⟩ := flatten_singletons (cs := cs) parts (fun p h => lang_cls_iff.1 (hp p h))
    exact ⟨by omega, h2⟩
  · rintro ⟨hl, hc⟩
    exact ⟨s.map (fun c => [c]), by simpa using hl, List.forall_mem_map.2 fun c h => .cls (hc c h),
      by rw [← List.flatMap_def, List.flatMap_singleton']⟩

/-- the class test of the model (on code points) is membership in the characters written between the brackets -/
theorem inRegexClass_iff {c : Char} : inRegexClass c = true ↔ c ∈ regexClassChars := by
  unfold inRegexClass regexClassChars
  rw [List.contains_iff_mem, List.mem_map]
  constructor
  · intro h; exact ⟨c.toNat, h, Char.ofNat_toNat c⟩
  · rintro ⟨n, hn, rfl⟩
    rw [regexClassSet_valid n hn]; exact hn

/-! ### 2. the look-up is membership in the language of the pattern -/

/-- MAIN: a dictionary word passes the model's test "prefix + bounded tail of class characters" exactly when it is in
    the language of `^clean[class]{0,need}$` -/
theorem fixedMatches_iff_lang (clean : Str) (need : Nat) (w : Str) :
    fixedMatches clean need w = true ↔ Lang (rxFixed clean need) w := by
  simp only [fixedMatches, rxFixed, Bool.and_eq_true, decide_eq_true_eq, List.all_eq_true, lang_cat_iff, lang_rxLit,
    lang_rxUpTo_cls, inRegexClass_iff, List.isPrefixOf_iff_prefix]
  constructor
  · rintro ⟨⟨⟨t, rfl⟩, hc⟩, hl⟩
    rw [List.drop_left] at hc hl
    exact ⟨clean, t, rfl, rfl, hl, hc⟩
  · rintro ⟨s1, s2, rfl, rfl, hl, hc⟩
    rw [List.drop_left]
    exact ⟨⟨⟨s2, rfl⟩, hc⟩, hl⟩

/-- the model's test and the model's matcher run on the pattern give the same verdict on every word -/
theorem fixedMatches_eq_matches (clean : Str) (need : Nat) : fixedMatches clean need = (rxFixed clean need).matches := by
  funext w; rw [Bool.eq_iff_iff, fixedMatches_iff_lang, matches_iff]

/-- a match is never shorter than the typed word nor more than `need` characters longer -/
theorem fixedMatches_length {clean : Str} {need : Nat} {w : Str} (h : fixedMatches clean need w = true) :
    clean.length ≤ w.length ∧ w.length ≤ clean.length + need := by
  obtain ⟨s1, s2, rfl, h1, h2⟩ := lang_cat_iff.1 ((fixedMatches_iff_lang _ _ _).1 h)
  have := (lang_rxUpTo_cls.1 h2).1
  rw [lang_rxLit.1 h1, List.length_append]; omega

/-! ### 3. the cleaned word is a literal -/

/-- every character that is special for the model's reader of expressions is removed by `clean_string` -/
theorem clean_is_literal : ∀ c, rxSpecial c = true → isCleaned c = true := fun c h =>
  (by decide +kernel : ∀ c ∈ rxSpecials, isCleaned c = true) c (rxSpecial_mem h)

/-- every character that is special for the `regex` crate (`is_meta_character`: `\ . + * ? ( ) | [ ] { } ^ $ # & - ~`)
    is removed by `clean_string` -/
theorem clean_removes_crate_meta : ∀ c, regexCrateMeta c = true → isCleaned c = true := by
  intro c h
  simp only [regexCrateMeta, Bool.or_eq_true, decide_eq_true_eq] at h
  rcases h with
    (((((((((((((((((rfl | rfl) | rfl) | rfl) | rfl) | rfl) | rfl) | rfl) | rfl) | rfl) | rfl) | rfl) | rfl) | rfl) | rfl) |
      rfl) | rfl) | rfl) <;> decide

theorem kept_not {p : Char → Bool} (hp : ∀ c, p c = true → isCleaned c = true) {c : Char} (h : isCleaned c = false) :
    p c = false := by
  cases hs : p c with
  | false => rfl
  | true => rw [hp c hs] at h; cases h

theorem mem_cleanString {w : Str} {c : Char} (hc : c ∈ cleanString w) : isCleaned c = false := by
  simpa [cleanString] using (List.mem_filter.1 hc).2

/-- the cleaned word contains no character that is special in a pattern (model's reader): inserted verbatim into the
    pattern text it denotes the literal `rxLit (cleanString w)` — see `parseRx_literal` -/
theorem cleanString_no_special (w : Str) : ∀ c ∈ cleanString w, rxSpecial c = false :=
  fun _ hc => kept_not clean_is_literal (mem_cleanString hc)

/-- the cleaned word contains no character that is special in a pattern for the `regex` crate: `format!` cannot
    inject syntax into the expression (no grouping, alternation, repetition, class, anchor, escape or flag can arise
    from the typed word) -/
theorem cleanString_no_meta (w : Str) : ∀ c ∈ cleanString w, regexCrateMeta c = false :=
  fun _ hc => kept_not clean_removes_crate_meta (mem_cleanString hc)

/-- the ASCII characters `clean_string` keeps are exactly: the control characters and the space (0–32), the digits,
    the letters, and DEL (127).  All ASCII punctuation `! " # $ % & ' ( ) * + , - . / : ; < = > ? @ [ \ ] ^ _ `` ` `` { | } ~`
    is removed.  (White space is only significant in a pattern under the `x` flag, which is not set and cannot be set:
    `(`, `?` are removed.) -/
theorem ascii_kept_iff : ∀ n, n < 128 →
    (isCleaned (Char.ofNat n) = false ↔
      (n ≤ 32 ∨ (48 ≤ n ∧ n ≤ 57) ∨ (65 ≤ n ∧ n ≤ 90) ∨ (97 ≤ n ∧ n ≤ 122) ∨ n = 127)) := by decide +kernel

/-- no ASCII character that survives `clean_string` is special for the `regex` crate or for the model's reader -/
theorem ascii_kept_not_meta : ∀ n, n < 128 → isCleaned (Char.ofNat n) = false →
    regexCrateMeta (Char.ofNat n) = false ∧ rxSpecial (Char.ofNat n) = false :=
  fun _ _ h => ⟨kept_not clean_removes_crate_meta h, kept_not clean_is_literal h⟩

/-- besides ASCII punctuation `clean_string` removes exactly the danda `।` and ZWNJ -/
theorem cleanSet_non_ascii : cleanSet.filter (fun n => decide (128 ≤ n)) = [0x964, 0x200C] := by decide +kernel

/-! ### 4. the model's own reader agrees: the cleaned word, written into a pattern, is read as the literal -/

/-- a text without special characters is read by the model's reader as the literal of that text -/
theorem parseRx_literal {t : List Char} (h : ∀ c ∈ t, rxSpecial c = false) : parseRx t = some (rxLit t) :=
  parseRx_iff.2 ⟨.one (shape_rxLit h), render_rxLit t⟩

/-- whatever was typed, the cleaned word inserted verbatim into a pattern is read as `rxLit (cleanString w)`: the
    first factor of `rxFixed` is what the text `clean` denotes -/
theorem parseRx_cleanString (w : Str) : parseRx (cleanString w) = some (rxLit (cleanString w)) :=
  parseRx_literal (cleanString_no_special w)

/-- the characters between the brackets are plain: none is `-` (range), `^` (negation), `[ ] \ & ~` (nested sets, escapes,
    set operations) or otherwise special for the `regex` crate, so the set denotes exactly its members -/
theorem regexClassChars_plain : ∀ c ∈ regexClassChars, regexCrateMeta c = false ∧ rxSpecial c = false := by decide +kernel

/-- the text `[<class>]` is read by the model's reader as the set `cls regexClassChars`: the second factor of `rxFixed`
    repeats what the bracket text denotes -/
theorem parseRx_class :
    parseRx ('[' :: regexClassChars ++ [']']) = some (.cat (.cls regexClassChars) .eps) := by decide +kernel

/-- 63 distinct characters in the set -/
theorem regexClassChars_nodup : regexClassChars.length = 63 ∧ regexClassChars.Nodup := by decide +kernel

/-! ### 5. the look-up of the engine, restated with the matcher -/

/-- the dictionary hits of the fixed-layout method are the words of the table that the expression
    `^clean[class]{0,need}$` matches (`Rx.matches`), ranked — `fixedHits` with the shortcut replaced by the matcher -/
theorem fixedHits_eq_regex (env : Env) (cfg : Cfg) (word : Str) :
    fixedHits env cfg word =
      match fixedTableName word with
      | none => []
      | some t =>
        ((env.fixedTable t).filter (rxFixed (cleanString word) (needCharsUpto (cleanString word).length)).matches).map
          (fun w => Rank.newSuggestion (if cfg.fixedKar then tradKarWord w else w) word) := by
  unfold fixedHits
  simp only [fixedMatches_eq_matches]; rfl

/-! ### 6. non-vacuity: both verdicts occur, and both sides agree on them -/

/-- `আমার`: four characters, so up to five more are allowed -/
def wAmar : Str := "আমার".toList

example : cleanString "আ-মা(র)।".toList = wAmar := by decide +kernel
example : needCharsUpto wAmar.length = 5 := by decide +kernel
-- no extra character
example : fixedMatches wAmar 5 "আমার".toList = true := by decide +kernel
example : (rxFixed wAmar 5).matches "আমার".toList = true := by decide +kernel
-- one extra character
example : fixedMatches wAmar 5 "আমারই".toList = true := by decide +kernel
example : (rxFixed wAmar 5).matches "আমারই".toList = true := by decide +kernel
-- `need` = 5 extra characters
example : fixedMatches wAmar 5 "আমারদেরকে".toList = true := by decide +kernel
example : (rxFixed wAmar 5).matches "আমারদেরকে".toList = true := by decide +kernel
-- six extra characters: too long
example : fixedMatches wAmar 5 "আমারদেরকেও".toList = false := by decide +kernel
example : (rxFixed wAmar 5).matches "আমারদেরকেও".toList = false := by decide +kernel
-- a Bengali digit is not in the class
example : fixedMatches wAmar 5 "আমার১".toList = false := by decide +kernel
example : (rxFixed wAmar 5).matches "আমার১".toList = false := by decide +kernel
-- not an extension of the typed word
example : fixedMatches wAmar 5 "আমি".toList = false := by decide +kernel
example : (rxFixed wAmar 5).matches "আমি".toList = false := by decide +kernel
-- `need` = 0 (a one-character word): only the word itself
example : fixedMatches "ক".toList 0 "ক".toList = true ∧ (rxFixed "ক".toList 0).matches "ক".toList = true := by decide +kernel
example : fixedMatches "ক".toList 0 "কি".toList = false ∧ (rxFixed "ক".toList 0).matches "কি".toList = false := by decide +kernel
-- the language itself (decided through `matches_iff`)
example : Lang (rxFixed wAmar 5) "আমারই".toList ∧ ¬ Lang (rxFixed wAmar 5) "আমার১".toList := by decide +kernel
-- the shape of the expression
example : rxFixed "কর".toList 1 =
    .cat (.cat (.chr 'ক') (.cat (.chr 'র') .eps)) (.opt (.cat (.cls regexClassChars) .eps)) := by decide +kernel
example : parseRx (cleanString "ক(র)|".toList) = some (rxLit "কর".toList) := by decide +kernel

end Riti.FixedRegex
