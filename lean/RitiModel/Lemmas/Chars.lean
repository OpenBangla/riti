/-
Lemmas/Chars — what the proofs about the fixed-layout method use of the character classes of Model/Chars
(tables regenerated from src/utility.rs, src/fixed/chars.rs): a pure consonant is in no other class, the code
points the engine compares with (hasanta, chandrabindu, length mark, the joiners, the U+0000 of
`unwrap_or_default()`) are in no class at all, the left-standing signs are ি ে ৈ, and the positions in which a
sign key is treated specially exclude one another; `karToVowel` is the look-up in the table `karVowels`.
-/
import RitiModel.Model.Fixed
import RitiModel.Lemmas.Logic
namespace Riti
open Gen

/-! ### the code points the engine compares with -/

/-- `c` is in none of the classes that `process_key_value`, the reph scan and the documented rules test -/
structure Unclassed (c : Char) : Prop where
  vowel : isVowel c = false
  kar : isKar c = false
  mark : isMark c = false
  cons : isPureConsonant c = false

/-- U+0000: what `unwrap_or_default()` reads at the right end of an empty text -/
theorem unclassed_nul : Unclassed '\x00' := by constructor <;> decide
theorem unclassed_hasanta : Unclassed cHasanta := by constructor <;> decide
theorem unclassed_chandra : Unclassed cChandra := by constructor <;> decide
theorem unclassed_lengthMark : Unclassed cLengthMark := by constructor <;> decide
theorem unclassed_zwj : Unclassed cZWJ := by constructor <;> decide
theorem unclassed_zwnj : Unclassed cZWNJ := by constructor <;> decide

theorem chandra_ne_hasanta : (cChandra == cHasanta) = false := by decide
theorem hasanta_ne_chandra : (cHasanta == cChandra) = false := by decide
theorem nul_ne_chandra : ('\x00' == cChandra) = false := by decide
theorem nul_ne_hasanta : ('\x00' == cHasanta) = false := by decide

/-- a text that does not end in a hasanta, as the code sees it: last code point read with
    `unwrap_or_default()` -/
theorem headD_ne_hasanta {u : Str} (h : u.head? ≠ some cHasanta) : (u.headD '\x00' == cHasanta) = false := by
  cases u with
  | nil => exact nul_ne_hasanta
  | cons a r => simpa using h

/-! ### vowels (independent vowels and the ten signs that have one) -/

theorem isVowel_ne_hasanta {c : Char} (h : isVowel c = true) : (c == cHasanta) = false :=
  ne_of_class h unclassed_hasanta.vowel

theorem isVowel_ne_chandra {c : Char} (h : isVowel c = true) : (c == cChandra) = false :=
  ne_of_class h unclassed_chandra.vowel

/-! ### left-standing signs -/

theorem isLeftStandingKar_iff (k : Char) :
    isLeftStandingKar k = true ↔ k = cIKar ∨ k = cEKar ∨ k = cOIKar := by
  constructor
  · intro h
    have hk : k = Char.ofNat k.toNat := (Char.ofNat_toNat k).symm
    simp only [isLeftStandingKar, leftStandingKarSet, List.contains_iff_mem, List.mem_cons,
      List.not_mem_nil, or_false] at h
    -- `cIKar`, `cEKar`, `cOIKar` are `Char.ofNat` of the three numbers of the set, by definition
    rcases h with h | h | h <;> rw [h] at hk
    · exact Or.inl hk
    · exact Or.inr (Or.inl hk)
    · exact Or.inr (Or.inr hk)
  · rintro (rfl | rfl | rfl) <;> decide

/-- what the engine needs to know about a left-standing sign `k` -/
structure LskFacts (k : Char) : Prop where
  kar : isKar k = true
  hasanta : (k == cHasanta) = false
  lengthMark : (k == cLengthMark) = false
  ra : (k == cR) = false
  ligature : isLigatureKar k = false
  pending : toPending k = some k
  cons : isPureConsonant k = false

theorem lskFacts {k : Char} (h : isLeftStandingKar k = true) : LskFacts k := by
  rcases (isLeftStandingKar_iff k).mp h with rfl | rfl | rfl <;>
    exact ⟨by decide, by decide, by decide, by decide, by decide, by decide, by decide⟩

/-! ### pure consonants -/

/-- no pure consonant is a vowel sign, a typing mark or a vowel (`utility.rs`, `MARKS`) -/
theorem cons_table :
    pureConsonantSet.all (fun n => !karSet.contains n && !marksSet.contains n && !vowelSet.contains n) = true := by
  decide +kernel

/-- what the engine needs to know about a pure consonant `c` -/
structure ConsFacts (c : Char) : Prop where
  kar : isKar c = false
  lsk : isLeftStandingKar c = false
  mark : isMark c = false
  vowel : isVowel c = false
  hasanta : (c == cHasanta) = false
  lengthMark : (c == cLengthMark) = false
  chandra : (c == cChandra) = false
  ekar : (c == cEKar) = false

theorem consFacts {c : Char} (h : isPureConsonant c = true) : ConsFacts c := by
  have := List.all_eq_true.mp cons_table c.toNat (by simpa [isPureConsonant, List.contains_iff_mem] using h)
  simp only [Bool.and_eq_true, Bool.not_eq_true'] at this
  obtain ⟨⟨h1, h2⟩, h3⟩ := this
  exact ⟨h1, (eq_false_of_ne_true fun hl => by rw [(lskFacts hl).cons] at h; cases h), h2, h3,
    ne_of_class h unclassed_hasanta.cons, ne_of_class h unclassed_lengthMark.cons,
    ne_of_class h unclassed_chandra.cons, ne_of_class h (by decide)⟩

theorem isVowel_not_cons {c : Char} (h : isVowel c = true) : isPureConsonant c = false :=
  eq_false_of_ne_true fun hc => by rw [(consFacts hc).vowel] at h; cases h

theorem isMark_not_cons {c : Char} (h : isMark c = true) : isPureConsonant c = false :=
  eq_false_of_ne_true fun hc => by rw [(consFacts hc).mark] at h; cases h

/-! ### the position of a sign -/

/-- the positions in which a sign key is treated specially — vowel-forming (empty text, after a vowel or a typing
    mark), after a chandrabindu, after a hasanta, after a pure consonant — exclude one another -/
theorem position_exclusive (rbuf : Str) :
    (autoVowelPos rbuf (rbuf.headD '\x00') = true → (rbuf.headD '\x00' == cChandra) = false ∧
      (rbuf.headD '\x00' == cHasanta) = false ∧ isPureConsonant (rbuf.headD '\x00') = false) ∧
    ((rbuf.headD '\x00' == cChandra) = true →
      (rbuf.headD '\x00' == cHasanta) = false ∧ isPureConsonant (rbuf.headD '\x00') = false) ∧
    ((rbuf.headD '\x00' == cHasanta) = true → isPureConsonant (rbuf.headD '\x00') = false) := by
  refine ⟨fun h => ?_, fun h => ?_, fun h => ?_⟩
  · cases rbuf with
    | nil => exact ⟨nul_ne_chandra, nul_ne_hasanta, unclassed_nul.cons⟩
    | cons a r =>
      rcases Bool.or_eq_true _ _ ▸ (show (isVowel a || isMark a) = true from h) with h | h
      · exact ⟨isVowel_ne_chandra h, isVowel_ne_hasanta h, isVowel_not_cons h⟩
      · exact ⟨ne_of_class h unclassed_chandra.mark, ne_of_class h unclassed_hasanta.mark, isMark_not_cons h⟩
  · rw [beq_iff_eq.mp h]; exact ⟨chandra_ne_hasanta, unclassed_chandra.cons⟩
  · rw [beq_iff_eq.mp h]; exact unclassed_hasanta.cons

/-! ### the table behind `karToVowel` -/

/-- the ten vowel signs that have an independent form, with that form -/
def karVowels : List (Char × Char) :=
  [(cAAKar, cAA), (cIKar, cI), (cIIKar, cII), (cUKar, cU), (cUUKar, cUU), (cRRIKar, cRRI), (cEKar, cE),
   (cOIKar, cOI), (cOKar, cO), (cOUKar, cOU)]

theorem mem_of_ite_some {k k₀ v v₀ : Char} {o : Option Char} {l : List (Char × Char)}
    (h : (if k == k₀ then some v₀ else o) = some v) (ho : o = some v → (k, v) ∈ l) : (k, v) ∈ (k₀, v₀) :: l := by
  split at h
  · next hk => cases h; cases eq_of_beq hk; exact List.mem_cons_self ..
  · exact List.mem_cons_of_mem _ (ho h)

theorem karToVowel_mem {k v : Char} (h : karToVowel k = some v) : (k, v) ∈ karVowels :=
  mem_of_ite_some h fun h => mem_of_ite_some h fun h => mem_of_ite_some h fun h => mem_of_ite_some h fun h =>
  mem_of_ite_some h fun h => mem_of_ite_some h fun h => mem_of_ite_some h fun h => mem_of_ite_some h fun h =>
  mem_of_ite_some h fun h => mem_of_ite_some h fun h => nomatch h

theorem karToVowel_of_mem : ∀ p ∈ karVowels, karToVowel p.1 = some p.2 := by decide +kernel

end Riti
