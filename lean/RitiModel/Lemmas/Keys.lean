/-
Lemmas/Keys — `keycodeToChar` answers from the regenerated `keycode_to_char` table (`Gen.keyChar`), so what holds of every
character of the table holds of every character a key yields: the instances (ASCII, no NUL, no curly quote) are one
evaluation over the table each.
-/
import RitiModel.Model.Keys
import RitiModel.Lemmas.Store
namespace Riti
open Gen

theorem keycodeToChar_all {P : Char → Prop} (htbl : ∀ p ∈ keyChar, P (Char.ofNat p.2)) {k : Nat} {c : Char}
    (h : keycodeToChar k = some c) : P c := by
  unfold keycodeToChar at h
  split at h
  · next n hn =>
    cases h
    obtain ⟨_, _, hm⟩ := AList.alookup_mem hn
    exact htbl _ hm
  · cases h

end Riti
