/-
Lemmas/C02Selection — what ONE more character does to the word part of a text (`word_snoc_eq_iff`: it keeps the
word part iff the right-to-left scan `tlen` cuts exactly one character more; so a punctuation key always keeps it,
any other key but the escape character never, the escape character exactly after punctuation that follows a
word), and when the raw typed text is a candidate of its own (`rawAdded`), with the number of candidates.
For Props/C02Selection.
-/
import RitiModel.Lemmas.SplitWord
import RitiModel.Lemmas.Candidates
namespace Riti
open Gen

/-! ### the word part after one more character -/

theorem dropWhile_snoc_nil {p : Char → Bool} (t : Str) (c : Char) (h : t.dropWhile p = []) :
    (t ++ [c]).dropWhile p = if p c then [] else [c] := by
  simp [List.dropWhile_append, h, List.dropWhile_cons]

theorem takeWhile_snoc_nil {p : Char → Bool} (t : Str) (c : Char) (h : t.dropWhile p = []) :
    (t ++ [c]).takeWhile p = if p c then t ++ [c] else t := by
  have ht : t.takeWhile p = t := by simpa [h] using List.takeWhile_append_dropWhile (p := p) (l := t)
  rw [List.takeWhile_append, ht, if_pos rfl, List.takeWhile_cons]
  split <;> simp

theorem dropWhile_snoc_ne {p : Char → Bool} (t : Str) (c : Char) (h : t.dropWhile p ≠ []) :
    (t ++ [c]).dropWhile p = t.dropWhile p ++ [c] := by
  rw [List.dropWhile_append, if_neg (by simpa using h)]

theorem meta_ne_colon (c : Char) (h : isMeta c = true) : (c == ':') = false := by
  rw [beq_eq_false_iff_ne]; rintro rfl; exact absurd h (by decide)

theorem take_snoc_eq_take_iff {u : Str} {c : Char} {m n : Nat} (hm : m ≤ u.length + 1) (hn : n ≤ u.length) :
    (u ++ [c]).take m = u.take n ↔ m = n := by
  rw [← List.take_append_of_le_length (l₂ := [c]) hn, List.take_eq_take_iff, List.length_append, List.length_singleton]
  omega

/-- **the criterion**: one more character keeps the word part iff the scan cuts exactly one character more -/
theorem word_snoc_eq_iff (t : Str) (c : Char) :
    word (t ++ [c]) = word t ↔
      tlen false (c :: (t.dropWhile isMeta).reverse) false = tlen false (t.dropWhile isMeta).reverse false + 1 := by
  by_cases h : t.dropWhile isMeta = []
  · -- no word yet: every character but a punctuation character starts one
    rw [word_def (t ++ [c]), word_def t, dropWhile_snoc_nil t c h, h]
    cases hc : isMeta c <;> simp [tlen_cons, tlen_nil, hc, isMeta_ne_backtick]
  · have h0 := tlen_le false (t.dropWhile isMeta).reverse false
    have h1 := tlen_le false (c :: (t.dropWhile isMeta).reverse) false
    simp only [List.length_reverse, List.length_cons] at h0 h1
    rw [word_def (t ++ [c]), word_def t, dropWhile_snoc_ne t c h, List.reverse_append, List.reverse_singleton,
      List.singleton_append, take_snoc_eq_take_iff (by simp) (Nat.sub_le _ _), List.length_append, List.length_singleton]
    omega

/-- a punctuation key never changes the word part — no condition on the text before it -/
theorem word_snoc_meta (t : Str) (c : Char) (hc : isMeta c = true) : word (t ++ [c]) = word t :=
  (word_snoc_eq_iff t c).mpr ((tlen_cons_meta false _ hc).trans (Nat.add_comm _ _))

/-- a non-punctuation key other than the escape character always changes it (the scan stops at once) -/
theorem word_snoc_nonmeta_ne (t : Str) (c : Char) (hc : isMeta c = false) (hb : (c == '`') = false) :
    word (t ++ [c]) ≠ word t := by
  rw [ne_eq, word_snoc_eq_iff, tlen_cons_stop false _ hc hb rfl]
  omega

theorem getLast?_dropWhile {p : Char → Bool} (t : Str) (h : t.dropWhile p ≠ []) :
    (t.dropWhile p).getLast? = t.getLast? := by
  conv => rhs; rw [← @List.takeWhile_append_dropWhile _ p t, List.getLast?_append]
  cases hl : (t.dropWhile p).getLast? with
  | none => simp at hl; exact absurd hl h
  | some x => rfl

/-- **the escape character** keeps the word part exactly when it follows punctuation that follows a word:
    it then joins the trailing part (after a colon it would pull the colon out of the word; after a letter it
    joins the word; with no word yet it starts one) -/
theorem word_snoc_backtick_iff (t : Str) :
    word (t ++ ['`']) = word t ↔ t.dropWhile isMeta ≠ [] ∧ ∃ x, t.getLast? = some x ∧ isMeta x = true := by
  by_cases h : t.dropWhile isMeta = []
  · simp [word_snoc_eq_iff, h, tlen_cons, tlen_nil]
  · rw [word_snoc_eq_iff, ← getLast?_dropWhile t h, List.getLast?_eq_head?_reverse]
    cases hr : (t.dropWhile isMeta).reverse with
    | nil => exact absurd (List.reverse_eq_nil_iff.mp hr) h
    | cons x r =>
      -- `x` is the last character; behind the escape character the scan reads it in escape state
      rw [tlen_cons, tlen_cons false x r true]
      by_cases hm : isMeta x = true
      · simp [h, hm, tlen_cons_meta false r hm]; omega
      · by_cases hc : x = ':'
        · subst hc; simp [h, hm, tlen_cons_stop (c := ':') false r (by decide) (by decide) rfl]
        · simp [h, hm, hc]

/-! ### when the raw typed text is a candidate of its own; the number of candidates -/

/-- whether the raw typed text is appended as a candidate of its own (the English option) -/
def rawAdded (env : Env) (cfg : Cfg) (cache : Memo) (term : Str) : Bool :=
  cfg.english && term != (preparedParts env cfg term).pre &&
    !((C07.beforeEnglish env cfg cache term).any (fun x => x.sameText (.last term 3)))

theorem rawsAt_eq {env : Env} (cfg : Cfg) (cache : Memo) {term : Str} (he : env.emoticon term = none) :
    rawsAt env cfg cache term (preparedParts env cfg term) =
      if rawAdded env cfg cache term then [.last term 3] else [] := by
  rw [rawAdded, beforeEnglish_eq env cfg cache term he, rawsAt, rawItems_of_none he, List.any_map]
  simp [bne, Rank.sameText, Function.comp_def, show ∀ s n, (Rank.last s n).text = s from fun _ _ => rfl]

theorem suggestList_length {env : Env} (cfg : Cfg) (cache : Memo) {term : Str} (he : env.emoticon term = none) :
    (suggestList env cfg cache term).length =
      (coreItems env cfg cache term (preparedParts env cfg term).word).length +
        (if rawAdded env cfg cache term then 1 else 0) := by
  rw [length_suggestList, rawsAt_eq cfg cache he]
  split <;> rfl

end Riti
