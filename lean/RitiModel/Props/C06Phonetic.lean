/-
Props/C06Phonetic — the phonetic half of C06: after the word has ended the context behaves from
then on like a newly created one.

`ObsEq env cfg S₀ a b` relates two phonetic states that satisfy the invariants of reachable states
(`PInv`, implied by `C05.Reach`) for the same options and the same EFFECTIVE store `S₀` (the
selections as loaded / as of the last learning commit), hold the same composition and the same
user auto-correct list.  Their memos, their in-memory stores (entries derived by
`get_prev_selection`) and their stale list/index may differ.

* `ObsEq` is a bisimulation for key presses, backspaces, `finish` and every commit that learns
  nothing: equal answers, related successors (`pKey_obsEq`, `pBackspace_obsEq`, `pFinish_obsEq`,
  `pStep_obsEq`; key press and backspace are `ObsEq.refresh`, which is `C05.refresh_is_pure` on both
  sides); a commit has the SAME OUTCOME on both sides — panic, nothing, or the same binding
  (`ObsEq.learned_eq`) — but a learning one writes each side's own in-memory store.
* FULL STRENGTH FAILS across a learning commit (`p_continuations_equal_false`): derived entries
  pending in the used context are written out with the next learned word and shadow a re-learning
  of their base (the C06 face of `C09.derived_entry_shadows_relearning`).
* `ObsEqS` = `ObsEq` + equal in-memory stores is a bisimulation for ALL in-contract events
  (`p_continuations_equal`); `ObsEq` alone for all runs without a learning commit
  (`p_continuations_equal_partial`), in particular for every run with suggestions off.
* `p_terminated_is_fresh`: after commit / finish / ctrl-backspace / emptying backspace the context
  is idle and `ObsEq` to `pNew fs'` whenever the selections file holds the effective store;
  `ObsEqS` whenever it holds the in-memory store (always true right after a learning commit whose
  save succeeded).
* `idle_after_step_is_fresh`: at the level of `step` the hypothesis on the selections file is kept
  by the engine itself, as long as the file is writable.

Not covered: `update_engine` (compares the recorded mtime, which a used context and a new one need
not share) — that is C11.

Remark on `Reach`: it has a constructor for every call (also `finish`), but its store index can only
change at a learning commit; an idle state cannot be re-indexed to its own in-memory store, which
`ObsEqS` needs.  The relation is therefore stated over `PInv` (`Lemmas/PhoneticInv`), which every
`Reach`-able state satisfies (`Reach.pinv`) and which can be re-indexed (`PInv.reindex_idle`).
-/
import RitiModel.Props.C05
namespace Riti.C06P
open Riti Riti.Gen Riti.C05

/-! ### the relation -/

/-- two phonetic contexts that cannot be told apart by key presses, backspaces and `finish`:
    invariants of reachable states for the same options and effective store `S₀`, same
    composition, same user auto-correct list -/
structure ObsEq (env : Env) (cfg : Cfg) (S₀ : Store) (a b : PState) : Prop where
  ia : PInv env cfg S₀ a
  ib : PInv env cfg S₀ b
  buf : a.buffer = b.buffer
  ua : a.userAutocorrect = b.userAutocorrect

theorem ObsEq.of_reach {env : Env} {cfg : Cfg} {S₀ : Store} {a b : PState}
    (ra : Reach env cfg S₀ a) (rb : Reach env cfg S₀ b)
    (hb : a.buffer = b.buffer) (hu : a.userAutocorrect = b.userAutocorrect) : ObsEq env cfg S₀ a b :=
  ⟨ra.pinv, rb.pinv, hb, hu⟩

theorem ObsEq.symm {env : Env} {cfg : Cfg} {S₀ : Store} {a b : PState} (h : ObsEq env cfg S₀ a b) :
    ObsEq env cfg S₀ b a := ⟨h.ib, h.ia, h.buf.symm, h.ua.symm⟩

/-- the strong relation: moreover the in-memory selection stores (learned AND derived entries)
    are equal.  `S₀` is then immaterial. -/
def ObsEqS (env : Env) (cfg : Cfg) (a b : PState) : Prop :=
  (∃ S₀, ObsEq env cfg S₀ a b) ∧ a.selections = b.selections

/-! ### 1. bisimulation: key press, backspace, finish -/

/-- the composition set to the same text on both sides (one whose proper prefixes were all visited), then what is shown
    refreshed: EQUAL suggestions, related successors, and in-memory stores that are still equal if they were.  Key press
    and backspace are the two instances. -/
theorem ObsEq.refresh {env : Env} {cfg : Cfg} {S₀ : Store} {a b : PState} (h : ObsEq env cfg S₀ a b) {t : Str}
    (ht : t.dropLast <+: a.buffer) :
    (pRefresh env cfg { a with buffer := t }).2 = (pRefresh env cfg { b with buffer := t }).2 ∧
    ObsEq env cfg S₀ (pRefresh env cfg { a with buffer := t }).1 (pRefresh env cfg { b with buffer := t }).1 ∧
    (a.selections = b.selections →
      (pRefresh env cfg { a with buffer := t }).1.selections = (pRefresh env cfg { b with buffer := t }).1.selections) :=
  have ht' : t.dropLast <+: b.buffer := h.buf ▸ ht
  ⟨by rw [refresh_is_pure h.ia ht, refresh_is_pure h.ib ht', h.ua],
    ⟨h.ia.refresh ht, h.ib.refresh ht', by rw [pRefresh_buffer, pRefresh_buffer],
      by rw [pRefresh_ua, pRefresh_ua]; exact h.ua⟩,
    fun hs => by simp only [pRefresh_selections, hs]⟩

/-- KEY PRESS: related contexts return EQUAL suggestions and stay related -/
theorem pKey_obsEq {env : Env} {cfg : Cfg} {S₀ : Store} {a b : PState} (h : ObsEq env cfg S₀ a b) (key sel : Nat) :
    (pKey env cfg a key sel).2 = (pKey env cfg b key sel).2 ∧
    ObsEq env cfg S₀ (pKey env cfg a key sel).1 (pKey env cfg b key sel).1 := by
  obtain ⟨ho, hr, _⟩ := h.refresh (keyBuffer_dropLast_prefix a.buffer key)
  rw [pKey_eq, pKey_eq, ← h.buf]
  exact ⟨congrArg (Sugg.mapIndex _) ho, hr⟩

/-- BACKSPACE (plain or ctrl): related contexts return EQUAL suggestions and stay related -/
theorem pBackspace_obsEq {env : Env} {cfg : Cfg} {S₀ : Store} {a b : PState} (h : ObsEq env cfg S₀ a b) (ctrl : Bool) :
    (pBackspace env cfg a ctrl).2 = (pBackspace env cfg b ctrl).2 ∧
    ObsEq env cfg S₀ (pBackspace env cfg a ctrl).1 (pBackspace env cfg b ctrl).1 := by
  obtain ⟨ho, hr, _⟩ := h.refresh (backspace_dropLast_prefix a.buffer ctrl)
  rw [pBackspace_eq, pBackspace_eq, ← h.buf]
  exact ⟨ho, hr⟩

/-- FINISH (no output): related contexts stay related -/
theorem pFinish_obsEq {env : Env} {cfg : Cfg} {S₀ : Store} {a b : PState} (h : ObsEq env cfg S₀ a b) :
    ObsEq env cfg S₀ (pFinish a) (pFinish b) :=
  ⟨h.ia.finish, h.ib.finish, rfl, h.ua⟩

/-! ### 1'. bisimulation: commit -/

/-- the contract of `commit`: with suggestions on it is only called while a word is being composed
    (the index then refers to the list on display).  On an idle context `commit` reads the stale
    list of the previous word — out of contract, see `C11.commit_before_typing_differs`. -/
def CommitOk (cfg : Cfg) (s : PState) : Prop := cfg.phoneticSuggestion = true → pOngoing s = true

/-- the contract is symmetric in related contexts -/
theorem ObsEq.commitOk {env : Env} {cfg : Cfg} {S₀ : Store} {a b : PState} (h : ObsEq env cfg S₀ a b)
    (hc : CommitOk cfg a) : CommitOk cfg b := fun hon => by
  simpa [pOngoing, h.buf] using hc hon

/-- in contract, related contexts learn the same thing from `commit i`: nothing, the same binding
    (typed word ↦ chosen word), or the same panic when `i` is outside the list.  So a commit has the SAME outcome on
    both sides (`pCommit_eq`), applied to each side's own state: each side inserts the binding into its own in-memory
    store, which is what it hands to `fs::write` -/
theorem ObsEq.learned_eq {env : Env} {cfg : Cfg} {S₀ : Store} {a b : PState} (h : ObsEq env cfg S₀ a b)
    (hc : CommitOk cfg a) (i : Nat) : pLearned cfg a i = pLearned cfg b i := by
  cases hon : cfg.phoneticSuggestion with
  | true =>
    have hne : a.buffer ≠ [] := by simpa [pOngoing] using hc hon
    -- the binding learned depends on the state only through composition, list and preselected index; in the
    -- middle of a word the last two are those of the specification, whatever was typed before
    obtain ⟨l₁, p₁⟩ := h.ia.list hon hne
    obtain ⟨l₂, p₂⟩ := h.ib.list hon (h.buf ▸ hne)
    unfold pLearned
    rw [l₁, p₁, l₂, p₂, h.buf, h.ua]
  | false => rw [pLearned_off cfg a i hon, pLearned_off cfg b i hon]

/-- whatever is learned, strongly related contexts write the same store and stay strongly related
    (after a learning commit the new effective store is the store just written) -/
theorem pLearn_obsEqS {env : Env} {cfg : Cfg} {a b : PState} (h : ObsEqS env cfg a b) (kv : Option (Str × Str)) :
    (pLearn a kv).2 = (pLearn b kv).2 ∧ ObsEqS env cfg (pLearn a kv).1 (pLearn b kv).1 := by
  obtain ⟨⟨S₀, h₀⟩, hs⟩ := h
  cases kv with
  | none => exact ⟨rfl, ⟨S₀, pFinish_obsEq h₀⟩, hs⟩
  | some kv =>
    have hw : ainsert a.selections kv.1 kv.2 = ainsert b.selections kv.1 kv.2 := by rw [hs]
    exact ⟨congrArg some hw, ⟨_, h₀.ia.learn _, hw ▸ h₀.ib.learn _, rfl, h₀.ua⟩, hw⟩

/-- COMMIT under the strong relation: the same store is written on both sides (if any) and the
    contexts stay strongly related -/
theorem pCommit_obsEqS {env : Env} {cfg : Cfg} {a b a' : PState} {wr : Option Store} (h : ObsEqS env cfg a b)
    (hc : CommitOk cfg a) (i : Nat) (ha : pCommit cfg a i = .ok (a', wr)) :
    ∃ b', pCommit cfg b i = .ok (b', wr) ∧ ObsEqS env cfg a' b' := by
  obtain ⟨S₀, h₀⟩ := h.1
  rw [pCommit_eq] at ha ⊢
  rw [← h₀.learned_eq hc i]
  cases hl : pLearned cfg a i with
  | error e => rw [hl] at ha; cases ha
  | ok kv =>
    rw [hl] at ha
    obtain ⟨rfl, rfl⟩ : (pLearn a kv).1 = a' ∧ (pLearn a kv).2 = wr :=
      ⟨congrArg Prod.fst (Except.ok.inj ha), congrArg Prod.snd (Except.ok.inj ha)⟩
    exact ⟨_, by rw [(pLearn_obsEqS h kv).1]; rfl, (pLearn_obsEqS h kv).2⟩

/-! ### 2. whole continuations -/

/-- the calls of the phonetic method whose effect can be observed -/
inductive PEv where
  | key (code sel : Nat)
  | backspace (ctrl : Bool)
  | finish
  | commit (i : Nat)
  deriving DecidableEq, Repr

/-- what the outside sees of one call: the suggestion returned; for `commit` the store handed to
    `fs::write` (if any); a panic ends the run -/
inductive PObs where
  | sugg (s : Sugg)
  | done
  | wrote (st : Option Store)
  | panic (p : Panic)
  deriving DecidableEq, Repr

/-- one call (`step` of Model/Context restricted to the phonetic method, files left out) -/
def pStep (env : Env) (cfg : Cfg) (s : PState) : PEv → Res (PState × PObs)
  | .key k sel => .ok ((pKey env cfg s k sel).1, .sugg (pKey env cfg s k sel).2)
  | .backspace c => .ok ((pBackspace env cfg s c).1, .sugg (pBackspace env cfg s c).2)
  | .finish => .ok (pFinish s, .done)
  | .commit i =>
    match pCommit cfg s i with
    | .error p => .error p
    | .ok r => .ok (r.1, .wrote r.2)

/-- run a list of calls and collect what is observed (up to and including a panic) -/
def pRun (env : Env) (cfg : Cfg) : PState → List PEv → List PObs
  | _, [] => []
  | s, e :: es =>
    match pStep env cfg s e with
    | .error p => [.panic p]
    | .ok r => r.2 :: pRun env cfg r.1 es

/-- is this call in contract in this state (only `commit` has a precondition, `CommitOk`) -/
def evOk (cfg : Cfg) (s : PState) : PEv → Bool
  | .commit _ => !cfg.phoneticSuggestion || pOngoing s
  | _ => true

/-- every `commit` of the run is made in contract -/
def inContract (env : Env) (cfg : Cfg) : PState → List PEv → Bool
  | _, [] => true
  | s, e :: es =>
    evOk cfg s e &&
    match pStep env cfg s e with
    | .error _ => true
    | .ok r => inContract env cfg r.1 es

/-- no `commit` of the run learns (writes) anything -/
def noLearning (env : Env) (cfg : Cfg) : PState → List PEv → Bool
  | _, [] => true
  | s, e :: es =>
    match pStep env cfg s e with
    | .error _ => true
    | .ok r => (match r.2 with | .wrote (some _) => false | _ => true) && noLearning env cfg r.1 es

/-- ONE CALL on related contexts, in contract: the same panic; or the same observation, related successors and
    in-memory stores that are still equal if they were; or — the one thing `ObsEq` does not survive — a commit that
    learns: the same binding on both sides, which each side inserts into its own store -/
theorem pStep_obsEq {env : Env} {cfg : Cfg} {S₀ : Store} {a b : PState} (h : ObsEq env cfg S₀ a b) (e : PEv)
    (hok : evOk cfg a e = true) :
    (∃ p, pStep env cfg a e = .error p ∧ pStep env cfg b e = .error p) ∨
    (∃ a' b' o, pStep env cfg a e = .ok (a', o) ∧ pStep env cfg b e = .ok (b', o) ∧ ObsEq env cfg S₀ a' b' ∧
      (a.selections = b.selections → a'.selections = b'.selections)) ∨
    (∃ kv, pStep env cfg a e = .ok ((pLearn a (some kv)).1, .wrote (pLearn a (some kv)).2) ∧
      pStep env cfg b e = .ok ((pLearn b (some kv)).1, .wrote (pLearn b (some kv)).2)) := by
  cases e with
  | key k sel =>
    obtain ⟨ho, hr, hs⟩ := h.refresh (keyBuffer_dropLast_prefix a.buffer k)
    simp only [pStep, pKey_eq, ← h.buf, ho]
    exact .inr (.inl ⟨_, _, _, rfl, rfl, hr, hs⟩)
  | backspace c =>
    obtain ⟨ho, hr, hs⟩ := h.refresh (backspace_dropLast_prefix a.buffer c)
    simp only [pStep, pBackspace_eq, ← h.buf, ho]
    exact .inr (.inl ⟨_, _, _, rfl, rfl, hr, hs⟩)
  | finish => exact .inr (.inl ⟨_, _, _, rfl, rfl, pFinish_obsEq h, id⟩)
  | commit i =>
    simp only [pStep, pCommit_eq, ← h.learned_eq (fun hon => by simpa [evOk, hon] using hok) i]
    cases pLearned cfg a i with
    | error p => exact .inl ⟨p, rfl, rfl⟩
    | ok kv =>
      cases kv with
      | none => exact .inr (.inl ⟨_, _, _, rfl, rfl, pFinish_obsEq h, id⟩)
      | some kv => exact .inr (.inr ⟨kv, rfl, rfl⟩)

/-- under the strong relation nothing is excepted: a commit that learns writes the same store on both sides, which is
    the new effective store -/
theorem pStep_obsEqS {env : Env} {cfg : Cfg} {a b : PState} (h : ObsEqS env cfg a b) (e : PEv)
    (hok : evOk cfg a e = true) :
    (∃ p, pStep env cfg a e = .error p ∧ pStep env cfg b e = .error p) ∨
    (∃ a' b' o, pStep env cfg a e = .ok (a', o) ∧ pStep env cfg b e = .ok (b', o) ∧ ObsEqS env cfg a' b') := by
  obtain ⟨S₀, h₀⟩ := h.1
  rcases pStep_obsEq h₀ e hok with he | ⟨a', b', o, ha, hb, hr, hs⟩ | ⟨kv, ha, hb⟩
  · exact .inl he
  · exact .inr ⟨a', b', o, ha, hb, ⟨S₀, hr⟩, hs h.2⟩
  · exact .inr ⟨_, _, _, ha, (pLearn_obsEqS h (some kv)).1 ▸ hb, (pLearn_obsEqS h (some kv)).2⟩

/-- **p_continuations_equal**: two contexts with the same options, composition, user list and
    in-memory selection store (and the invariants of reachable states) give the SAME observations —
    every suggestion returned, every store written, the same panic if any — on EVERY list of key
    presses, backspaces, finishes and in-contract commits, learning ones included -/
theorem p_continuations_equal {env : Env} {cfg : Cfg} (evs : List PEv) {a b : PState} (h : ObsEqS env cfg a b)
    (hc : inContract env cfg a evs = true) : pRun env cfg a evs = pRun env cfg b evs := by
  induction evs generalizing a b with
  | nil => rfl
  | cons e es ih =>
    simp only [inContract, Bool.and_eq_true] at hc
    obtain ⟨hok, hrest⟩ := hc
    rcases pStep_obsEqS h e hok with ⟨p, ha, hb⟩ | ⟨a', b', o, ha, hb, hr⟩
    · simp only [pRun, ha, hb]
    · rw [ha] at hrest
      simp only [pRun, ha, hb]
      rw [ih hr hrest]

/-- **p_continuations_equal_partial**: under `ObsEq` alone (the in-memory stores may differ in
    derived entries) the observations are the same on every in-contract run in which no commit
    learns.  EXCLUDED: runs containing a learning commit — there the statement is false, see
    `p_continuations_equal_false`. -/
theorem p_continuations_equal_partial {env : Env} {cfg : Cfg} {S₀ : Store} (evs : List PEv) {a b : PState}
    (h : ObsEq env cfg S₀ a b) (hc : inContract env cfg a evs = true) (hn : noLearning env cfg a evs = true) :
    pRun env cfg a evs = pRun env cfg b evs := by
  induction evs generalizing a b with
  | nil => rfl
  | cons e es ih =>
    simp only [inContract, Bool.and_eq_true] at hc
    obtain ⟨hok, hrest⟩ := hc
    simp only [noLearning] at hn
    rcases pStep_obsEq h e hok with ⟨p, ha, hb⟩ | ⟨a', b', o, ha, hb, hr, _⟩ | ⟨kv, ha, _⟩
    · simp only [pRun, ha, hb]
    · rw [ha] at hrest hn
      simp only [Bool.and_eq_true] at hn
      simp only [pRun, ha, hb]
      rw [ih hr hrest hn.2]
    · rw [ha] at hn
      simp [pLearn] at hn

/-- with suggestions off no run learns and every run is in contract … -/
theorem off_runs_free (env : Env) (cfg : Cfg) (hoff : cfg.phoneticSuggestion = false) (evs : List PEv) (s : PState) :
    inContract env cfg s evs = true ∧ noLearning env cfg s evs = true := by
  induction evs generalizing s with
  | nil => exact ⟨rfl, rfl⟩
  | cons e es ih =>
    cases e with
    | commit i => simpa [inContract, noLearning, evOk, pStep, pCommit_off cfg s i hoff, hoff] using ih _
    | _ => simpa [inContract, noLearning, evOk, pStep] using ih _

/-- … so with suggestions off `ObsEq` contexts agree on EVERY run -/
theorem p_continuations_equal_off {env : Env} {cfg : Cfg} {S₀ : Store} (evs : List PEv) {a b : PState}
    (h : ObsEq env cfg S₀ a b) (hoff : cfg.phoneticSuggestion = false) :
    pRun env cfg a evs = pRun env cfg b evs :=
  p_continuations_equal_partial evs h (off_runs_free env cfg hoff evs a).1 (off_runs_free env cfg hoff evs a).2

/-! ### 3. a context whose word has ended is as good as new -/

/-- the four ways a word ends: `Terminates env cfg s s' wr` — from `s` the call leads to `s'` and
    hands `wr` to `fs::write`.  Commit (learning or not), finish, ctrl-backspace, and a plain
    backspace after which the composition is empty. -/
inductive Terminates (env : Env) (cfg : Cfg) (s : PState) : PState → Option Store → Prop
  | commit (i : Nat) (s' : PState) (wr : Option Store) : pCommit cfg s i = .ok (s', wr) → Terminates env cfg s s' wr
  | finish : Terminates env cfg s (pFinish s) none
  | ctrlBackspace : Terminates env cfg s (pBackspace env cfg s true).1 none
  | backspaceEmpty : (pBackspace env cfg s false).1.buffer = [] → Terminates env cfg s (pBackspace env cfg s false).1 none

theorem commit_written_is_memory {cfg : Cfg} {s s' : PState} {i : Nat} {st : Store}
    (hc : pCommit cfg s i = .ok (s', some st)) : s'.selections = st := by
  rw [(pCommit_ok hc).1]; rfl

/-- after a terminating call the composition is empty and the invariant holds for the effective store after the call:
    the written store for a learning commit, else the old one -/
theorem terminated_inv {env : Env} {cfg : Cfg} {S₀ : Store} {s s' : PState} {wr : Option Store}
    (h : PInv env cfg S₀ s) (ht : Terminates env cfg s s' wr) : s'.buffer = [] ∧ PInv env cfg (wr.getD S₀) s' := by
  cases ht with
  | commit i s' wr hc =>
    exact ⟨by rw [(pCommit_ok hc).1], h.commit_getD hc⟩
  | finish => exact ⟨rfl, h.finish⟩
  | ctrlBackspace => exact ⟨pBackspace_buffer env cfg s true, h.backspace true⟩
  | backspaceEmpty hb => exact ⟨hb, h.backspace false⟩

/-- an idle context is `ObsEq` to a context newly created over files whose selections file holds
    the effective store and whose user auto-correct list is the one in use -/
theorem idle_is_fresh {env : Env} {cfg : Cfg} {S₀ : Store} {s : PState} (h : PInv env cfg S₀ s) (hb : s.buffer = [])
    (fs : FS) (hsel : fs.sel.content = S₀) (hua : (pNew fs).userAutocorrect = s.userAutocorrect) :
    ObsEq env cfg S₀ s (pNew fs) :=
  ⟨h, hsel ▸ PInv.new env cfg fs, hb, hua.symm⟩

/-- an idle context is STRONGLY related to a context newly created over files whose selections file
    holds the in-memory store (learned and derived entries) -/
theorem idle_is_fresh_strong {env : Env} {cfg : Cfg} {S₀ : Store} {s : PState} (h : PInv env cfg S₀ s)
    (hb : s.buffer = []) (fs : FS) (hsel : fs.sel.content = s.selections)
    (hua : (pNew fs).userAutocorrect = s.userAutocorrect) : ObsEqS env cfg s (pNew fs) :=
  ⟨⟨s.selections, idle_is_fresh (h.reindex_idle hb) hb fs hsel hua⟩, hsel.symm⟩

/-- **p_terminated_is_fresh**: let a reachable phonetic context end its word by a commit (learning
    or not), finish, ctrl-backspace or an emptying backspace.  It then reports no ongoing session,
    and it is `ObsEq` to the context `pNew fs'` created over the user files after the call PROVIDED
    the selections file holds the effective store — the store written by a learning commit (i.e.
    the save succeeded), else the old effective store `S₀` — and the user auto-correct file is the
    one loaded.  The file hypothesis cannot be dropped: a failed save, a file changed by another
    process or a never-written entry make the two differ (`C11.selections_not_reread`,
    `C11.selections_not_reread_observable`). -/
theorem p_terminated_is_fresh {env : Env} {cfg : Cfg} {S₀ : Store} {s s' : PState} {wr : Option Store}
    (r : Reach env cfg S₀ s) (ht : Terminates env cfg s s' wr) (fs' : FS)
    (hsel : fs'.sel.content = wr.getD S₀) (hua : (pNew fs').userAutocorrect = s'.userAutocorrect) :
    pOngoing s' = false ∧ ObsEq env cfg (wr.getD S₀) s' (pNew fs') := by
  obtain ⟨hb, hi⟩ := terminated_inv r.pinv ht
  exact ⟨by simp [pOngoing, hb], idle_is_fresh hi hb fs' hsel hua⟩

/-- **p_terminated_is_fresh_strong**: if the selections file holds the whole in-memory store (no
    derived entry is waiting to be written) the ended context and the new one are strongly related:
    they agree on every in-contract continuation, learning commits included -/
theorem p_terminated_is_fresh_strong {env : Env} {cfg : Cfg} {S₀ : Store} {s s' : PState} {wr : Option Store}
    (r : Reach env cfg S₀ s) (ht : Terminates env cfg s s' wr) (fs' : FS)
    (hsel : fs'.sel.content = s'.selections) (hua : (pNew fs').userAutocorrect = s'.userAutocorrect) :
    pOngoing s' = false ∧ ObsEqS env cfg s' (pNew fs') := by
  obtain ⟨hb, hi⟩ := terminated_inv r.pinv ht
  exact ⟨by simp [pOngoing, hb], idle_is_fresh_strong hi hb fs' hsel hua⟩

/-- a LEARNING commit whose save succeeded (the file now parses to the written store): the context
    and a new one are strongly related, no further hypothesis on the store -/
theorem p_learning_commit_is_fresh {env : Env} {cfg : Cfg} {S₀ : Store} {s s' : PState} {i : Nat} {st : Store}
    (r : Reach env cfg S₀ s) (hc : pCommit cfg s i = .ok (s', some st)) (fs' : FS)
    (hsel : fs'.sel = .parsed st) (hua : (pNew fs').userAutocorrect = s'.userAutocorrect) :
    pOngoing s' = false ∧ ObsEqS env cfg s' (pNew fs') :=
  p_terminated_is_fresh_strong r (.commit i s' (some st) hc) fs'
    (by rw [hsel, commit_written_is_memory hc]; rfl) hua

/-- hence: after the word has ended, every in-contract continuation without a learning commit is
    answered by the used context exactly as by the new one -/
theorem p_terminated_continuations {env : Env} {cfg : Cfg} {S₀ : Store} {s s' : PState} {wr : Option Store}
    (r : Reach env cfg S₀ s) (ht : Terminates env cfg s s' wr) (fs' : FS)
    (hsel : fs'.sel.content = wr.getD S₀) (hua : (pNew fs').userAutocorrect = s'.userAutocorrect)
    (evs : List PEv) (hc : inContract env cfg s' evs = true) (hn : noLearning env cfg s' evs = true) :
    pRun env cfg s' evs = pRun env cfg (pNew fs') evs :=
  p_continuations_equal_partial evs (p_terminated_is_fresh r ht fs' hsel hua).2 hc hn

/-- … and EVERY in-contract continuation when the file holds the in-memory store -/
theorem p_terminated_continuations_strong {env : Env} {cfg : Cfg} {S₀ : Store} {s s' : PState} {wr : Option Store}
    (r : Reach env cfg S₀ s) (ht : Terminates env cfg s s' wr) (fs' : FS)
    (hsel : fs'.sel.content = s'.selections) (hua : (pNew fs').userAutocorrect = s'.userAutocorrect)
    (evs : List PEv) (hc : inContract env cfg s' evs = true) :
    pRun env cfg s' evs = pRun env cfg (pNew fs') evs :=
  p_continuations_equal evs (p_terminated_is_fresh_strong r ht fs' hsel hua).2 hc

/-- with suggestions on, a plain backspace that returns the empty suggestion has emptied the
    composition (so it is one of the terminating events; with suggestions off this fails, see
    `C06.p_empty_suggestion_but_ongoing`) -/
theorem backspace_empty_on {env : Env} {cfg : Cfg} {s : PState} (hon : cfg.phoneticSuggestion = true)
    (h : (pBackspace env cfg s false).2 = Sugg.empty) : (pBackspace env cfg s false).1.buffer = [] := by
  rw [pBackspace_eq, if_neg Bool.false_ne_true] at h ⊢
  rw [pRefresh_buffer]
  -- a refresh shows nothing only for the empty composition
  rcases pRefresh_cases env cfg { s with buffer := s.buffer.dropLast } with ⟨he, _⟩ | ⟨_, hoff, _⟩ | ⟨_, _, e⟩
  · exact he
  · rw [hon] at hoff; cases hoff
  · rw [e, pCreate_on env cfg _ hon] at h; cases h

/-! ### 3'. at the level of the API (`step`): the file hypothesis is kept by the engine itself -/

/-- the phonetic calls as API events (the modifier byte is not read by the phonetic method) -/
def PEv.toEvent (modifier : Nat) : PEv → Event
  | .key code sel => .key code modifier sel
  | .backspace ctrl => .backspace ctrl
  | .finish => .finish
  | .commit i => .commit i

/-- **the file hypothesis is an invariant of the engine**: if the selections file holds the effective
    store before a call (key, backspace, commit, finish) and the file is writable, then after the
    call the context is reachable for the store the file holds NOW; and if the context is idle after
    the call it is `ObsEq` to the context `new` would create over the files as they are now
    (provided the user auto-correct file is still the one loaded).  Failed saves and foreign edits
    are what breaks the hypothesis (`C11.selections_not_reread`). -/
theorem idle_after_step_is_fresh (w : World) (c c' : Ctx) (fs fs' : FS) (e : PEv) (modifier : Nat) (o : Out)
    (S₀ : Store) (s s' : PState) (hm : c.m = .phonetic s) (r : Reach w.env c.cfg S₀ s)
    (hfile : fs.sel.content = S₀) (hw : fs.writable = true)
    (hst : step w c fs (e.toEvent modifier) = .ok (c', fs', o)) (hm' : c'.m = .phonetic s') :
    c'.cfg = c.cfg ∧ Reach w.env c.cfg fs'.sel.content s' ∧
    (c'.ongoing = false → (pNew fs').userAutocorrect = s'.userAutocorrect →
      ObsEq w.env c.cfg fs'.sel.content s' (pNew fs')) := by
  have key : c'.cfg = c.cfg ∧ Reach w.env c.cfg fs'.sel.content s' := by
    subst hfile
    cases e with
    | key code sel => cases step_phonetic hm hst; cases hm'; exact ⟨rfl, r.key code sel⟩
    | backspace ctrl => cases step_phonetic hm hst; cases hm'; exact ⟨rfl, r.backspace ctrl⟩
    | finish => cases step_phonetic hm hst; cases hm'; exact ⟨rfl, r.finish⟩
    | commit i =>
      cases step_phonetic hm hst with
      | commit _ s'' wr hc =>
        cases hm'
        cases wr with
        | none => exact ⟨rfl, r.commitKeep i hc⟩
        | some st =>
          have := r.commitLearn i st hc
          rw [commit_written_is_memory hc] at this
          simpa [fsWrote, hw, FileState.content] using this
  refine ⟨key.1, key.2, fun hidle hua => ?_⟩
  have hb : s'.buffer = [] := by simpa [Ctx.ongoing, hm', pOngoing] using hidle
  exact idle_is_fresh key.2.pinv hb fs' rfl hua

/-! ### 4. non-vacuity, and the limit of `ObsEq` -/

/-- `a b c` typed into a new context of the small world of C05 -/
def typedAbc : PState := press (press (press (pNew wFs) 41110) 41111) 41112

theorem typedAbc_reach : Reach wEnv wCfg [(['a', 'b'], ['y'])] typedAbc :=
  .key 41112 0 (.key 41111 0 (.key 41110 0 (.new wCfg wFs)))

/-- a used context in the small world of C05 (`ab ↦ y` learned, `c` a suffix): `a b c` typed and
    finished — its memo has three entries and its store the derived entry `abc ↦ yZ` -/
def usedCtx : PState := pFinish typedAbc

/-- a context newly created over the same files -/
def freshCtx : PState := pNew wFs

theorem usedCtx_reach : Reach wEnv wCfg [(['a', 'b'], ['y'])] usedCtx := .finish typedAbc_reach

/-- NON-VACUITY: the used context and the new one are `ObsEq` although they differ in memo, store
    and stale list; the hypotheses of `p_terminated_is_fresh` hold for `finish`; and they answer
    `a b c` identically (here: the derived preselection 1 for `abc`) -/
example :
    ObsEq wEnv wCfg [(['a', 'b'], ['y'])] usedCtx freshCtx ∧
    usedCtx.cache.length = 3 ∧ freshCtx.cache.length = 0 ∧
    usedCtx.selections.length = 2 ∧ freshCtx.selections.length = 1 ∧
    usedCtx.suggestions.length = 3 ∧ freshCtx.suggestions.length = 0 ∧
    pRun wEnv wCfg usedCtx [.key 41110 0, .key 41111 0, .key 41112 0, .backspace false, .commit 1] =
      pRun wEnv wCfg freshCtx [.key 41110 0, .key 41111 0, .key 41112 0, .backspace false, .commit 1] ∧
    (pRun wEnv wCfg freshCtx [.key 41110 0, .key 41111 0, .key 41112 0])[2]? =
      some (.sugg (.full ['a', 'b', 'c'] [['x', 'Z'], ['y', 'Z'], ['a', 'b', 'c']] 1 false)) := by
  have hsel : wFs.sel.content = (none : Option Store).getD [(['a', 'b'], ['y'])] := by decide
  have hua : (pNew wFs).userAutocorrect = usedCtx.userAutocorrect := by decide
  have h : ObsEq wEnv wCfg [(['a', 'b'], ['y'])] usedCtx freshCtx :=
    (p_terminated_is_fresh typedAbc_reach .finish wFs hsel hua).2
  refine ⟨h, by decide, by decide, by decide, by decide, by decide, by decide, ?_, by decide⟩
  exact p_continuations_equal_partial _ h (by decide) (by decide)

/-- the same by hand: both are reachable for the same options and effective store -/
example : ObsEq wEnv wCfg [(['a', 'b'], ['y'])] usedCtx freshCtx :=
  ObsEq.of_reach usedCtx_reach (.new wCfg wFs) (by decide) (by decide)

/-- **p_continuations_equal_false** — the full-strength statement (`ObsEq` contexts agree on every
    in-contract continuation) is FALSE (known finding, the C06 face of
    `C09.derived_entry_shadows_relearning`).  The used context still holds the derived entry
    `abc ↦ yZ`, never written to the file.  Both contexts are asked: `a b`, commit candidate 0 (`x`
    instead of the preselected `y` — a learning commit, the same binding `ab ↦ x` on both sides),
    then `a b c`.  They write different stores, and for `abc` the used context preselects the
    stale `yZ` (index 1) while the new one derives `xZ` (index 0): something of the old word leaked
    into a later one. -/
theorem p_continuations_equal_false :
    let evs : List PEv := [.key 41110 0, .key 41111 0, .commit 0, .key 41110 0, .key 41111 0, .key 41112 0]
    ObsEq wEnv wCfg [(['a', 'b'], ['y'])] usedCtx freshCtx ∧
    inContract wEnv wCfg usedCtx evs = true ∧
    pRun wEnv wCfg usedCtx evs ≠ pRun wEnv wCfg freshCtx evs ∧
    (pRun wEnv wCfg usedCtx evs)[2]? = some (.wrote (some [(['a', 'b'], ['x']), (['a', 'b', 'c'], ['y', 'Z'])])) ∧
    (pRun wEnv wCfg freshCtx evs)[2]? = some (.wrote (some [(['a', 'b'], ['x'])])) ∧
    (pRun wEnv wCfg usedCtx evs)[5]? =
      some (.sugg (.full ['a', 'b', 'c'] [['x', 'Z'], ['y', 'Z'], ['a', 'b', 'c']] 1 false)) ∧
    (pRun wEnv wCfg freshCtx evs)[5]? =
      some (.sugg (.full ['a', 'b', 'c'] [['x', 'Z'], ['y', 'Z'], ['a', 'b', 'c']] 0 false)) := by
  refine ⟨ObsEq.of_reach usedCtx_reach (.new wCfg wFs) (by decide) (by decide), ?_⟩
  decide +kernel

/-- the negation in quantified form: `ObsEq` is not enough for all in-contract continuations -/
theorem p_continuations_equal_not_obsEq :
    ¬ (∀ (env : Env) (cfg : Cfg) (S₀ : Store) (a b : PState) (evs : List PEv), ObsEq env cfg S₀ a b →
        inContract env cfg a evs = true → pRun env cfg a evs = pRun env cfg b evs) := by
  intro h
  obtain ⟨h1, h2, h3, _⟩ := p_continuations_equal_false
  exact h3 (h _ _ _ _ _ _ h1 h2)

/-- the user files after the used context's store has been written out -/
def usedFs : FS := { sel := .parsed usedCtx.selections }

/-- … while the strong relation does hold once the pending entry has been written: a used context
    and the new context created over the file it wrote agree on the same run -/
example :
    let evs : List PEv := [.key 41110 0, .key 41111 0, .commit 0, .key 41110 0, .key 41111 0, .key 41112 0]
    ObsEqS wEnv wCfg usedCtx (pNew usedFs) ∧ pRun wEnv wCfg usedCtx evs = pRun wEnv wCfg (pNew usedFs) evs := by
  have hsel : usedFs.sel.content = usedCtx.selections := rfl
  have hua : (pNew usedFs).userAutocorrect = usedCtx.userAutocorrect := by decide
  have h : ObsEqS wEnv wCfg usedCtx (pNew usedFs) :=
    (p_terminated_is_fresh_strong typedAbc_reach .finish usedFs hsel hua).2
  exact ⟨h, p_continuations_equal _ h (by decide)⟩

end Riti.C06P
