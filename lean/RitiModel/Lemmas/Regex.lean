/-
Lemmas/Regex — for Props/Regex: the textbook language of an expression (`Lang`) with one inversion lemma per constructor
of `Rx`, and the two functions `Rx.minLen`, `Rx.maxLen` that Props/Regex proves to bound the length of its words.
The reader is characterised in `Lemmas/RegexTotal`; of it only `applyOpts_rest` stands here.
-/
import RitiModel.Model.Regex
namespace Riti

/-! ### the language of an expression -/

/-- membership of a string in the language of an expression: the textbook rules (no repetition operator exists) -/
inductive Lang : Rx → List Char → Prop
  | eps : Lang .eps []
  | chr (c : Char) : Lang (.chr c) [c]
  | cls {cs : List Char} {x : Char} : x ∈ cs → Lang (.cls cs) [x]
  | cat {a b : Rx} {s t : List Char} : Lang a s → Lang b t → Lang (.cat a b) (s ++ t)
  | altL {a b : Rx} {s : List Char} : Lang a s → Lang (.alt a b) s
  | altR {a b : Rx} {s : List Char} : Lang b s → Lang (.alt a b) s
  | optNone {a : Rx} : Lang (.opt a) []
  | optSome {a : Rx} {s : List Char} : Lang a s → Lang (.opt a) s
  | grp {a : Rx} {s : List Char} : Lang a s → Lang (.grp a) s

theorem lang_eps_iff {s : List Char} : Lang .eps s ↔ s = [] :=
  ⟨fun h => by cases h; rfl, fun h => h ▸ .eps⟩

theorem lang_chr_iff {c : Char} {s : List Char} : Lang (.chr c) s ↔ s = [c] :=
  ⟨fun h => by cases h; rfl, fun h => h ▸ .chr c⟩

theorem lang_cls_iff {cs s : List Char} : Lang (.cls cs) s ↔ ∃ x, x ∈ cs ∧ s = [x] :=
  ⟨fun h => by cases h with | cls hx => exact ⟨_, hx, rfl⟩, fun ⟨_, hx, h⟩ => h ▸ .cls hx⟩

theorem lang_cat_iff {a b : Rx} {s : List Char} :
    Lang (.cat a b) s ↔ ∃ s1 s2, s = s1 ++ s2 ∧ Lang a s1 ∧ Lang b s2 :=
  ⟨fun h => by cases h with | cat h1 h2 => exact ⟨_, _, rfl, h1, h2⟩, fun ⟨_, _, h, h1, h2⟩ => h ▸ .cat h1 h2⟩

theorem lang_alt_iff {a b : Rx} {s : List Char} : Lang (.alt a b) s ↔ Lang a s ∨ Lang b s :=
  ⟨fun h => by cases h with | altL h => exact .inl h | altR h => exact .inr h,
   fun h => h.elim .altL .altR⟩

theorem lang_opt_iff {a : Rx} {s : List Char} : Lang (.opt a) s ↔ s = [] ∨ Lang a s :=
  ⟨fun h => by cases h with | optNone => exact .inl rfl | optSome h => exact .inr h,
   fun h => h.elim (fun h => h ▸ .optNone) .optSome⟩

theorem lang_grp_iff {a : Rx} {s : List Char} : Lang (.grp a) s ↔ Lang a s :=
  ⟨fun h => by cases h with | grp h => exact h, .grp⟩

/-! ### length bounds -/

/-- the length of the shortest word of the language (of a non-empty language) -/
def Rx.minLen : Rx → Nat
  | .eps => 0
  | .chr _ => 1
  | .cls _ => 1
  | .cat a b => a.minLen + b.minLen
  | .alt a b => min a.minLen b.minLen
  | .opt _ => 0
  | .grp a => a.minLen

/-- the length of the longest word of the language: finite, there is no repetition -/
def Rx.maxLen : Rx → Nat
  | .eps => 0
  | .chr _ => 1
  | .cls _ => 1
  | .cat a b => a.maxLen + b.maxLen
  | .alt a b => max a.maxLen b.maxLen
  | .opt a => a.maxLen
  | .grp a => a.maxLen

/-! ### the reader -/

theorem applyOpts_rest : ∀ (s : List Char) (r : Rx), (applyOpts r s).2.head? ≠ some '?'
  | [], r => by simp [applyOpts]
  | c :: rest, r => by
    unfold applyOpts
    split
    · exact applyOpts_rest rest (.opt r)
    · rename_i hc; simpa using hc

end Riti
