/-
Lemmas/EmojiTablesFacts — the kernel-evaluated checks on the generated emojicon rows (`Gen/EmojiTables.lean`), kept apart
from Props/EmojiTables so that editing a theorem there does not evaluate them again (three checks that are theorems of
Props/EmojiTables as they stand are decided there).  Every check is a closed Bool / list equation decided by
`decide +kernel`.

What the checkers look like is dictated by what the kernel evaluates fast: arithmetic on literals (`Nat.beq`, `Nat.ble`,
`*`, `|||`, `<<<`, `Nat.testBit`) is one step, recursion on ONE list is cheap; a function matching on two lists, a
`Decidable` instance (`decide (a = b)`, `List.contains`, `if`) or `getLast?` costs several times as much per element.
So a key is compared as one number (`enc`), a small set of code points is a bit mask (`maskOf`), and the two name tables,
strictly ascending in the source, are checked for distinct keys by an adjacent comparison (the emoticon table is not
sorted: 321² / 2 comparisons of numbers).
-/
import RitiModel.Lemmas.EmojiTables
import RitiModel.Lemmas.SplitWord
namespace Riti.EmojiTables
open Riti Riti.Gen

/-! ### checkers -/

def memN : List Nat → Nat → Bool
  | [], _ => false
  | a :: r, n => Nat.beq n a || memN r n

theorem memN_iff {l : List Nat} {n : Nat} : memN l n = true ↔ n ∈ l := by
  induction l with
  | nil => simp [memN]
  | cons a r ih => simp only [memN, Bool.or_eq_true, Nat.beq_eq, ih, List.mem_cons]

def distinctN : List Nat → Bool
  | [] => true
  | a :: r => !(memN r a) && distinctN r

theorem nodup_of_distinctN {l : List Nat} (h : distinctN l = true) : l.Nodup := by
  induction l with
  | nil => exact List.nodup_nil
  | cons a r ih =>
    simp only [distinctN, Bool.and_eq_true, Bool.not_eq_true', ← Bool.not_eq_true, memN_iff] at h
    exact List.nodup_cons.mpr ⟨h.1, ih h.2⟩

def maskOf : List Nat → Nat
  | [] => 0
  | a :: r => maskOf r ||| 1 <<< a

theorem testBit_maskOf {l : List Nat} {n : Nat} : (maskOf l).testBit n = true ↔ n ∈ l := by
  induction l with
  | nil => simp [maskOf]
  | cons a r ih =>
    simp only [maskOf, Nat.testBit_or, Bool.or_eq_true, ih, Nat.one_shiftLeft, Nat.testBit_two_pow, decide_eq_true_eq,
      List.mem_cons, or_comm, eq_comm (a := a)]

/-- a key as one number, digits in base 2²¹ (above every code point), so that different keys have different numbers;
    no proof needs that: keys with different numbers are different, and the number of a key of a list is among theirs -/
def enc : List Nat → Nat
  | [] => 0
  | c :: r => enc r * 0x200000 + (c + 1)

/-- lexicographic "strictly smaller" on keys (code point order = the order of Rust's `str`) -/
def ltCodes : List Nat → List Nat → Bool
  | _, [] => false
  | [], _ :: _ => true
  | a :: r, b :: s => Nat.blt a b || (Nat.beq a b && ltCodes r s)

theorem lt_of_ltCodes : ∀ {a b : List Nat}, ltCodes a b = true → a < b
  | [], [], h | _ :: _, [], h => by simp [ltCodes] at h
  | [], _ :: _, _ => List.nil_lt_cons ..
  | a :: r, b :: s, h => by
    simp only [ltCodes, Bool.or_eq_true, Bool.and_eq_true, Nat.blt_eq, Nat.beq_eq] at h
    exact List.cons_lt_cons_iff.mpr (h.imp id fun ⟨h1, h2⟩ => ⟨h1, lt_of_ltCodes h2⟩)

def ascFrom {β : Type} : List Nat → List (List Nat × β) → Bool
  | _, [] => true
  | p, r :: rest => ltCodes p r.1 && ascFrom r.1 rest

theorem pairwise_of_ascFrom {β : Type} {l : List (List Nat × β)} : ∀ {p : List Nat}, ascFrom p l = true →
    (p :: l.map Prod.fst).Pairwise (· < ·) := by
  induction l with
  | nil => intro p _; exact List.pairwise_singleton ..
  | cons r rest ih =>
    intro p h
    simp only [ascFrom, Bool.and_eq_true] at h
    have hr := ih h.2
    have hp := lt_of_ltCodes h.1
    refine List.pairwise_cons.mpr ⟨fun k hk => ?_, hr⟩
    rcases List.mem_cons.mp hk with rfl | hk
    · exact hp
    · exact List.lt_trans hp ((List.pairwise_cons.mp hr).1 k hk)

/-- no key twice: ascending from the empty key if the table is sorted (the cheap test), else the quadratic test -/
def keysOk {β : Type} (l : List (List Nat × β)) : Bool := ascFrom [] l || distinctN ((l.map Prod.fst).map enc)

theorem nodup_of_distinct_enc {l : List (List Nat)} (h : distinctN (l.map enc) = true) : l.Nodup :=
  (nodup_of_distinctN h).of_map enc fun _ _ hne e => hne (congrArg enc e)

theorem nodup_of_keysOk {β : Type} {l : List (List Nat × β)} (h : keysOk l = true) : (l.map Prod.fst).Nodup := by
  simp only [keysOk, Bool.or_eq_true] at h
  rcases h with h | h
  · exact (List.pairwise_cons.mp (pairwise_of_ascFrom h)).2.imp fun {a b} (hlt : a < b) (e : a = b) => List.lt_irrefl b (e ▸ hlt)
  · exact nodup_of_distinct_enc h

/-! ### classes of code points and of keys -/

def okCode (n : Nat) : Bool :=
  (Nat.blt 0 n && Nat.blt n 0x2018) || Nat.beq n 0x201A || Nat.beq n 0x201B ||
    (Nat.blt 0x201D n && (Nat.blt n 0xD800 || (Nat.blt 0xDFFF n && Nat.blt n 0x110000)))

theorem okCode_spec {n : Nat} (h : okCode n = true) :
    (n < 0xD800 ∨ (0xDFFF < n ∧ n < 0x110000)) ∧ n ≠ 0 ∧ n ≠ 0x2018 ∧ n ≠ 0x2019 ∧ n ≠ 0x201C ∧ n ≠ 0x201D := by
  simp only [okCode, Bool.or_eq_true, Bool.and_eq_true, Nat.blt_eq, Nat.beq_eq] at h
  omega

def printable (c : Nat) : Bool := Nat.ble 33 c && Nat.ble c 126
/-- a lower-case letter, a digit or `_`: the characters of all but five English names -/
def wordCode (c : Nat) : Bool := (Nat.ble 97 c && Nat.ble c 122) || (Nat.ble 48 c && Nat.ble c 57) || Nat.beq c 95
def highCode (n : Nat) : Bool := Nat.ble 0x2100 n

/-- at most two code points, or one that is no `wordCode`: true of every emoticon and of the word part of every emoticon
    (`emoticons_names_ok`) and of few English names, so that emoticons are compared with those few names only -/
def special : List Nat → Bool
  | [] | [_] | [_, _] => true
  | k => !(k.all wordCode)

def specialNames : List (List Nat) := (emojiNameRows.filter (fun r => special r.1)).map Prod.fst

theorem mem_specialNames {k : List Nat} : k ∈ specialNames ↔ k ∈ emojiNameRows.map Prod.fst ∧ special k = true := by
  simp only [specialNames, List.mem_map, List.mem_filter]
  exact ⟨fun ⟨r, ⟨hr, hs⟩, he⟩ => he ▸ ⟨⟨r, hr, rfl⟩, hs⟩, fun ⟨⟨r, hr, he⟩, hs⟩ => ⟨r, ⟨hr, he ▸ hs⟩, he⟩⟩

/-- the comparison of the keys as lists is reached only where their numbers agree -/
def isSpecialName (k : List Nat) : Bool := memN (specialNames.map enc) (enc k) && specialNames.contains k

theorem isSpecialName_iff {k : List Nat} : isSpecialName k = true ↔ k ∈ emojiNameRows.map Prod.fst ∧ special k = true := by
  rw [isSpecialName, Bool.and_eq_true, memN_iff, List.contains_iff_mem, ← mem_specialNames]
  exact ⟨And.right, fun h => ⟨List.mem_map_of_mem h, h⟩⟩

def emoWord (k : List Nat) : List Nat := codesOf (word (natsToChars k))

/-- first and last code point are neither in riti's punctuation set nor a back-tick: the key is its own word part -/
def edgesPlain (k : List Nat) : Bool :=
  match k, k.getLast? with
  | x :: _, some y => !(metaSet.contains x) && !(metaSet.contains y) && y != 96
  | _, _ => false

def lastN : List Nat → Nat → Nat
  | [], d => d
  | a :: r, _ => lastN r a

theorem getLast?_cons_eq (x : Nat) (r : List Nat) : (x :: r).getLast? = some (lastN r x) := by
  induction r generalizing x with
  | nil => rfl
  | cons a r ih => rw [List.getLast?_cons_cons, ih]; rfl

/-- `edgesPlain` as evaluated: the walk through `metaSet` is 28 steps per code point, the mask one -/
def edgesFast : List Nat → Bool
  | [] => false
  | x :: r => !((maskOf metaSet).testBit x) && !((maskOf metaSet).testBit (lastN r x)) && !(Nat.beq (lastN r x) 96)

theorem edgesPlain_eq (k : List Nat) : edgesPlain k = edgesFast k := by
  cases k with
  | nil => rfl
  | cons x r =>
    simp only [edgesPlain, getLast?_cons_eq, edgesFast]
    rw [Bool.eq_iff_iff]
    simp only [Bool.and_eq_true, Bool.not_eq_true', ← Bool.not_eq_true, testBit_maskOf, List.contains_iff_mem, bne_iff_ne, ne_eq,
      Nat.beq_eq]

theorem split_self_of_edges {k : List Nat} (hv : validCodes k = true) (he : edgesPlain k = true) :
    split (natsToChars k) false = ⟨[], natsToChars k, []⟩ := by
  have hmeta : ∀ n ∈ k, isMeta (Char.ofNat n) = metaSet.contains n ∧ (Char.ofNat n).toNat = n := fun n hn => by
    have := toNat_ofNat_of_valid (n := n) (by simpa using List.all_eq_true.mp hv n hn)
    exact ⟨by rw [isMeta, this], this⟩
  unfold edgesPlain at he
  split at he
  · next x r y hl =>
    simp only [Bool.and_eq_true, Bool.not_eq_true', bne_iff_ne, ne_eq] at he
    have hy : y ∈ x :: r := List.mem_of_getLast? hl
    refine split_self false _ (fun c hc => ?_) (fun c hc => ?_)
    · obtain rfl : Char.ofNat x = c := Option.some.inj hc
      rw [(hmeta x List.mem_cons_self).1, he.1.1]
    · rw [natsToChars, List.getLast?_map, hl] at hc
      obtain rfl : Char.ofNat y = c := Option.some.inj hc
      exact ⟨by rw [(hmeta y hy).1, he.1.2], beq_eq_false_iff_ne.mpr fun h => he.2 (by rw [← (hmeta y hy).2, h]; rfl), rfl⟩
  · cases he

/-! ### the checks -/

theorem keys_ok : keysOk emoticonRows = true ∧ keysOk emojiNameRows = true ∧ keysOk bengaliNameRows = true := by decide +kernel

/-- every code point of every key and every emoji of the three tables is a scalar value (the generated numbers denote the
    characters of the source text), none is U+0000 or a curly quote -/
theorem codes_ok :
    emoticonRows.all (fun r => r.1.all okCode && r.2.all okCode) = true ∧
    emojiNameRows.all (fun r => r.1.all okCode && r.2.all (fun e => e.all okCode)) = true ∧
    bengaliNameRows.all (fun r => r.1.all okCode && r.2.all (fun e => e.all okCode)) = true := by decide +kernel

theorem emoticons_printable_ok : emoticonRows.all (fun r => r.1.all printable) = true := by decide +kernel

/-- the English names that contain a character outside printable ASCII: exactly one, `life preserver` (a space) -/
theorem names_not_printable_ok : emojiNameRows.filter (fun r => !(r.1.all printable)) =
    [([108, 105, 102, 101, 32, 112, 114, 101, 115, 101, 114, 118, 101, 114], [[128735]])] := by decide +kernel

/-- the English names whose first or last character is punctuation (or a back-tick): `!`, `+1`, `-1` -/
theorem names_edges_ok : emojiNameRows.filter (fun r => !(edgesPlain r.1)) =
    [([33], [[10071]]), ([43, 49], [[128077]]), ([45, 49], [[128078]])] := by
  simp only [edgesPlain_eq]
  decide +kernel

theorem lists_nodup_ok :
    emojiNameRows.all (fun r => distinctN (r.2.map enc)) = true ∧
    bengaliNameRows.all (fun r => distinctN (r.2.map enc)) = true := by decide +kernel

/-- every emoji of the emoticon table and of the English name table contains a code point ≥ U+2100 (no text of letters,
    digits, punctuation or Bengali can coincide with an emoji) -/
theorem high_ok :
    emoticonRows.all (fun r => r.2.any highCode) = true ∧
    emojiNameRows.all (fun r => r.2.all (fun e => e.any highCode)) = true := by decide +kernel

/-- the 10 emoticons whose word part (by the phonetic `split`) is itself an English emoji name, with that name: typing
    them offers the emoticon's emoji, NOT the emoji of the name (the emoticon match takes precedence) -/
def emoticonsOverNames : List (List Nat × List Nat) :=
  [([111, 61, 41], [111]), ([111, 61, 93], [111]), ([111, 61, 45, 41], [111]), ([111, 61, 45, 93], [111]), ([120, 41], [120]),
   ([120, 93], [120]), ([120, 45, 41], [120]), ([120, 45, 93], [120]), ([61, 111], [111]), ([61, 45, 111], [111])]

/-- every emoticon and its word part are `special`, no emoticon is a special name, and the emoticons whose word part is one,
    with that word part (one check, so that the word parts and `specialNames` are evaluated once) -/
theorem emoticons_names_ok :
    emoticonRows.all (fun r => special r.1 && special (emoWord r.1)) = true ∧
    emoticonRows.all (fun r => !(isSpecialName r.1)) = true ∧
    (emoticonRows.filter (fun r => isSpecialName (emoWord r.1))).map (fun r => (r.1, emoWord r.1)) = emoticonsOverNames := by
  decide +kernel

/-- the key table has no key code twice; its rows with a key code published in riti.h give every printable ASCII character;
    no row gives a space -/
theorem printable_keys_ok :
    distinctN (keyChar.map Prod.fst) = true ∧
    (List.range' 33 94).all
      (maskOf ((keyChar.filter (fun p => (maskOf vcHeader).testBit p.1)).map Prod.snd)).testBit = true ∧
    memN (keyChar.map Prod.snd) 32 = false := by decide +kernel

theorem samples_ok :
    (([58, 41], [128515]) : List Nat × List Nat) ∈ emoticonRows ∧ (([66, 45, 41], [128526]) : List Nat × List Nat) ∈ emoticonRows ∧
    (([99, 111, 111, 108], [[128526], [127378]]) : List Nat × List (List Nat)) ∈ emojiNameRows := by decide +kernel

end Riti.EmojiTables
