/-
Lemmas/Bijoy — code-point-level facts about the Bijoy-2000 encoder model (Model/Bijoy.lean): where the code points of
the output come from (`step_allP`, `encodeNat_pres`, `bijoy_pres`: any predicate; hence no Bengali-block code point,
and in Lemmas/NoNul.lean no NUL), a loop step fails exactly on the five kar-range code points without a `replace_kar`
arm, plain code points are pushed unchanged.  Case analyses of `classify` and `replace_kar` go through their
`fun_cases` principles (first match wins: each case carries the negated guards of the arms before it).
-/
import RitiModel.Model.Bijoy
import RitiModel.Lemmas.Store
namespace Riti.Bijoy
open Riti Riti.Gen.Bijoy

/-! ### code-point level -/

/-- Bengali block U+0980..U+09FF -/
def Ben (n : Nat) : Prop := 0x0980 ≤ n ∧ n ≤ 0x09FF

instance (n : Nat) : Decidable (Ben n) := by unfold Ben; infer_instance

def AllP (P : Nat → Prop) (l : List Nat) : Prop := ∀ n ∈ l, P n

/-- no Bengali-block code point in the list (`AllP (¬ Ben ·)`, unfolded) -/
def Clean (l : List Nat) : Prop := ∀ n ∈ l, ¬ Ben n

theorem AllP.nil {P : Nat → Prop} : AllP P [] := nofun

theorem AllP.cons {P : Nat → Prop} {a : Nat} {l : List Nat} (ha : P a) (hl : AllP P l) : AllP P (a :: l) :=
  List.forall_mem_cons.2 ⟨ha, hl⟩

theorem AllP.append {P : Nat → Prop} {l₁ l₂ : List Nat} (h₁ : AllP P l₁) (h₂ : AllP P l₂) : AllP P (l₁ ++ l₂) :=
  List.forall_mem_append.2 ⟨h₁, h₂⟩

theorem AllP.tail {P : Nat → Prop} {l : List Nat} (h : AllP P l) : AllP P l.tail :=
  fun n hn => h n (List.mem_of_mem_tail hn)

theorem AllP.reverse {P : Nat → Prop} {l : List Nat} (h : AllP P l) : AllP P l.reverse :=
  fun n hn => h n (List.mem_reverse.1 hn)

theorem Clean.append {l₁ l₂ : List Nat} (h₁ : Clean l₁) (h₂ : Clean l₂) : Clean (l₁ ++ l₂) :=
  AllP.append h₁ h₂

theorem Clean.reverse {l : List Nat} (h : Clean l) : Clean l.reverse :=
  AllP.reverse h

/-! ### where output code points come from -/

/-- the characters `replace_kar` can return -/
def karOuts : List Nat :=
  [oAa, oIi, oULig, oUNarrow, oUWide, oURr, oUuLig, oUuNarrow, oUuWide, oRriNarrow, oRriWide, oI, oEFront, oE,
   oOiFront, oOi]

/-- the literals pushed by the arms of `unicode_to_bijoy` and by `convert_buffer` -/
def outLits : List Nat :=
  [oZFola, oReph, oHasanta, oAaTail, oAuTail, oGU, oShU, oHU, oTU, oHRri, oDari, oDdari]

/-- everything the encoder can push by itself: those literals, the `replace_kar` results, the `MAP` values -/
def emitted : List Nat := outLits ++ karOuts ++ bijoyMap.flatMap (·.2)

theorem lit_emitted {n : Nat} (h : n ∈ outLits) : n ∈ emitted :=
  List.mem_append_left _ (List.mem_append_left _ h)

theorem mapGet_emitted {k v : List Nat} (h : mapGet k = some v) {n : Nat} (hn : n ∈ v) : n ∈ emitted :=
  have ⟨_, _, hk⟩ := AList.alookup_mem h
  List.mem_append_right _ (List.mem_flatMap.2 ⟨_, hk, hn⟩)

theorem kar_emitted {k : Nat} {f : Bool} {p : List Nat} {r : Nat} (h : replaceKar k f p = .ok r) : r ∈ emitted := by
  refine List.mem_append_left _ (List.mem_append_right (bs := karOuts) _ ?_)
  revert h
  fun_cases replaceKar k f p <;> intro h <;> cases h <;> decide

theorem classify_other {c : Nat} {st : St} (h : classify c st = .other) : ¬ Ben c := by
  revert h
  fun_cases classify c st <;> intro h <;> first | exact fun hb => ‹¬ (_ ∨ _)› (.inl hb) | cases h

theorem loop_inv {I : St → Prop} {s : List Nat}
    (hI : ∀ c ∈ s, ∀ {rpre st st'}, I st → step rpre c st = .ok st' → I st') {rpre : List Nat} {st st' : St}
    (h : I st) (hl : loop rpre s st = .ok st') : I st' := by
  induction s generalizing rpre st with
  | nil => cases hl; exact h
  | cons c cs ih =>
    unfold loop at hl
    split at hl
    · cases hl
    · exact ih (fun d hd => hI d (List.mem_cons_of_mem _ hd)) (hI c List.mem_cons_self h ‹_›) hl

section
variable {P : Nat → Prop} (hP : ∀ n ∈ emitted, P n)
include hP

/-- `convert_buffer` only pushes `MAP` values and the literals `¨ © &` -/
theorem convertBuffer_allP {buf rout : List Nat} (h : AllP P rout) :
    AllP P (convertBuffer buf rout) := by
  have lit {c : Bool} {a l} (ha : a ∈ outLits) (hl : AllP P l) : AllP P (if c = true then a :: l else l) := by
    split
    · exact hl.cons (hP a (lit_emitted ha))
    · exact hl
  unfold convertBuffer
  refine lit (by decide) (lit (by decide) (lit (by decide) ?_))
  split
  · exact (AllP.reverse fun n hn => hP n (mapGet_emitted ‹_› hn)).append h
  · exact h

/-- one loop iteration pushes code points of `emitted`, and in the catch-all arm the current code point, which is then
    outside the Bengali block: that arm lies after the arm for the whole block -/
theorem step_allP {rpre : List Nat} {c : Nat} {st st' : St} (hc : ¬ Ben c → P c) (h : AllP P st.rout)
    (hs : step rpre c st = .ok st') : AllP P st'.rout := by
  have lit {n} (hn : n ∈ outLits) : P n := hP n (lit_emitted hn)
  have flush {buf rout} := convertBuffer_allP hP (buf := buf) (rout := rout)
  unfold step at hs
  cases ha : classify c st <;> rw [ha] at hs <;> simp only [exec] at hs
  case gU | shU | hU | hRri => cases hs; exact h.cons (lit (by decide))
  case hasanta | zwj | afterHasanta => cases hs; exact h
  case bengali => cases hs; dsimp only; exact flush h
  case dari | ddari => cases hs; exact (flush h).cons (lit (by decide))
  case tU => cases hs; exact (flush h).tail.cons (lit (by decide))
  case other => cases hs; exact (flush h).cons (hc (classify_other ha))
  case zwnj =>
    split at hs <;> cases hs
    · exact (flush h).cons (lit (by decide))
    · exact h
  case oKar | ouKar =>
    split at hs <;> cases hs
    next k hk => exact (flush (h.cons (hP k (kar_emitted hk)))).cons (lit (by decide))
  case frontKar =>
    split at hs <;> cases hs
    next k hk => dsimp only; exact flush (h.cons (hP k (kar_emitted hk)))
  case kar =>
    split at hs <;> cases hs
    next k hk => exact (flush h).cons (hP k (kar_emitted hk))

/-- every code point of the encoding is a `MAP` value, a `replace_kar` result, a literal of the algorithm or an input
    code point outside the Bengali block: a predicate that holds of the first three kinds and of those input code
    points holds of the output -/
theorem encodeNat_pres {s t : List Nat} (hs : ∀ c ∈ s, ¬ Ben c → P c) (h : encodeNat s = .ok t) : AllP P t := by
  unfold encodeNat at h
  split at h
  · cases h
  · cases h
    have hc := loop_inv (I := fun st => AllP P st.rout) (fun c hc => step_allP hP (hs c hc)) AllP.nil ‹_›
    apply AllP.reverse
    split
    · exact hc
    · exact convertBuffer_allP hP hc

end

theorem bijoy_pres {Q : Char → Prop} (hQ : ∀ n ∈ emitted, Q (Char.ofNat n)) {s t : List Char}
    (hs : ∀ c ∈ s, ¬ Ben c.toNat → Q c) (h : bijoy s = .ok t) : ∀ c ∈ t, Q c := by
  unfold bijoy at h
  split at h
  · cases h
  · cases h
    intro c hc
    obtain ⟨n, hn, rfl⟩ := List.mem_map.1 hc
    refine encodeNat_pres (P := fun n => Q (Char.ofNat n)) hQ (fun n hn hb => ?_) ‹_› n hn
    obtain ⟨c, hc, rfl⟩ := List.mem_map.1 hn
    rw [Char.ofNat_toNat]
    exact hs c hc hb

/-- nothing the encoder pushes by itself lies in the Bengali block (the whole `MAP` is checked by the kernel) -/
theorem emitted_clean : ∀ n ∈ emitted, ¬ Ben n := by decide +kernel

theorem step_clean {rpre : List Nat} {c : Nat} {st st' : St} (h : Clean st.rout)
    (hs : step rpre c st = .ok st') : Clean st'.rout :=
  step_allP emitted_clean id h hs

/-! ### `replace_kar` and `classify`: which code points reach the `panic!` -/

/-- the kars `replace_kar` has an arm for: া ি ী ু ূ ৃ ে ৈ -/
def OkKar (k : Nat) : Prop :=
  k = kAa ∨ k = kIi ∨ k = kU ∨ k = kUu ∨ k = kRri ∨ k = kI ∨ k = kE ∨ k = kOi

instance (k : Nat) : Decidable (OkKar k) := by unfold OkKar; infer_instance

theorem replaceKar_ok {k : Nat} (hk : OkKar k) (f : Bool) (p : List Nat) : ∃ r, replaceKar k f p = .ok r := by
  fun_cases replaceKar k f p
  all_goals first | exact ⟨_, rfl⟩ | simp only [OkKar, *, or_self] at hk

theorem replaceKar_err {k : Nat} (hk : ¬ OkKar k) (f : Bool) (p : List Nat) : replaceKar k f p = .error .bijoy := by
  simp only [OkKar, not_or] at hk
  obtain ⟨h1, h2, h3, h4, h5, h6, h7, h8⟩ := hk
  simp only [replaceKar, h1, h2, h3, h4, h5, h6, h7, h8, if_false]

theorem classify_kar {c : Nat} {st : St} (h : classify c st = .kar) :
    c ≠ B_O_KAR ∧ c ≠ B_OU_KAR ∧ isKar c = true := by
  revert h
  fun_cases classify c st <;> intro h <;> first | exact ⟨‹_›, ‹_›, ‹_›⟩ | cases h

theorem classify_frontKar {c : Nat} {st : St} (h : classify c st = .frontKar) : isFrontKar c = true := by
  revert h
  fun_cases classify c st <;> intro h <;> first | assumption | cases h

theorem classify_hasanta {c : Nat} {st : St} (h : classify c st = .hasanta) : c = B_HASANTA := by
  revert h
  fun_cases classify c st <;> intro h <;> first | assumption | cases h

/-! ### panics: exactly the five kar-range code points without a `replace_kar` arm -/

/-- U+09C4 (vocalic RR sign) and the unassigned U+09C5 U+09C6 U+09C9 U+09CA: inside `is_kar`'s range
`B_AA_KAR..=B_OU_KAR`, but `replace_kar` has no arm for them -/
def badKars : List Nat := [0x09C4, 0x09C5, 0x09C6, 0x09C9, 0x09CA]

theorem okKar_of_frontKar {c : Nat} (h : isFrontKar c = true) : OkKar c := by
  simp [isFrontKar, frontKarSet] at h
  rcases h with rfl | rfl | rfl <;> decide

/-- the kar range U+09BE..U+09CC: the eight kars with an arm, the five without, ো and ৌ -/
theorem okKar_of_kar {c : Nat} (h1 : c ≠ B_O_KAR) (h2 : c ≠ B_OU_KAR) (h3 : isKar c = true) (hb : c ∉ badKars) :
    OkKar c := by
  simp only [isKar, Bool.and_eq_true, decide_eq_true_eq] at h3
  simp only [karLo, karHi] at h3
  simp only [badKars, List.mem_cons, List.not_mem_nil, or_false, not_or] at hb
  simp only [B_O_KAR, B_OU_KAR] at h1 h2
  simp only [OkKar, kAa, kIi, kU, kUu, kRri, kI, kE, kOi]
  omega

theorem classify_bad {c : Nat} (hc : c ∈ badKars) (st : St) : classify c st = .kar := by
  simp [badKars] at hc
  rcases hc with rfl | rfl | rfl | rfl | rfl <;>
    simp [classify, B_O_KAR, B_OU_KAR, isFrontKar, frontKarSet, B_U_KAR, B_RRI_KAR, isKar, karLo, karHi]

theorem step_bad {c : Nat} (hc : c ∈ badKars) (rpre : List Nat) (st : St) : step rpre c st = .error .bijoy := by
  have hn : ∀ c ∈ badKars, ¬ OkKar c := by decide
  simp only [step, classify_bad hc, exec, replaceKar_err (hn c hc)]

theorem step_good {c : Nat} (hc : c ∉ badKars) (rpre : List Nat) (st : St) : ∃ st', step rpre c st = .ok st' := by
  unfold step
  cases ha : classify c st <;> simp only [exec]
  case oKar | ouKar =>
    obtain ⟨r, hr⟩ := replaceKar_ok (k := kE) (by decide) (isFrontFacing rpre) sEmpty
    rw [hr]; exact ⟨_, rfl⟩
  case frontKar =>
    obtain ⟨r, hr⟩ := replaceKar_ok (okKar_of_frontKar (classify_frontKar ha)) (isFrontFacing rpre) sEmpty
    rw [hr]; exact ⟨_, rfl⟩
  case kar =>
    obtain ⟨h1, h2, h3⟩ := classify_kar ha
    obtain ⟨r, hr⟩ := replaceKar_ok (okKar_of_kar h1 h2 h3 hc) false st.buf
    rw [hr]; exact ⟨_, rfl⟩
  case zwnj => split <;> exact ⟨_, rfl⟩
  all_goals exact ⟨_, rfl⟩

theorem loop_error_iff {s : List Nat} {e : Panic} (rpre : List Nat) (st : St) :
    loop rpre s st = .error e ↔ e = .bijoy ∧ ∃ c ∈ s, c ∈ badKars := by
  induction s generalizing rpre st with
  | nil => simp [loop]
  | cons a as ih =>
    rw [loop]
    by_cases ha : a ∈ badKars
    · rw [step_bad ha]
      exact ⟨fun h => ⟨(Except.error.inj h).symm, a, List.mem_cons_self, ha⟩, fun h => h.1 ▸ rfl⟩
    · obtain ⟨st', hst⟩ := step_good ha rpre st
      rw [hst]
      simp only [ih, List.mem_cons, exists_eq_or_imp, ha, false_or]

theorem encodeNat_error_iff {s : List Nat} {e : Panic} :
    encodeNat s = .error e ↔ e = .bijoy ∧ ∃ c ∈ s, c ∈ badKars := by
  rw [← loop_error_iff [] { rout := [], buf := [], hs := false }, encodeNat]
  cases loop [] s { rout := [], buf := [], hs := false } <;> simp

/-! ### plain characters are copied -/

/-- a code point that no arm of the encoder treats specially: outside the Bengali block and not one of
`‘ ’ “ ”`, ZWNJ, ZWJ, `।`, `॥` -/
def PlainN (n : Nat) : Prop :=
  ¬ Ben n ∧ n ≠ 0x2018 ∧ n ≠ 0x2019 ∧ n ≠ 0x201C ∧ n ≠ 0x201D ∧ n ≠ 0x200C ∧ n ≠ 0x200D ∧ n ≠ 0x0964 ∧ n ≠ 0x0965

instance (n : Nat) : Decidable (PlainN n) := by unfold PlainN; infer_instance

theorem mapGet_nil : mapGet [] = none := by decide +kernel

theorem convertBuffer_nil (rout : List Nat) : convertBuffer [] rout = rout := by
  simp [convertBuffer, mapGet_nil, sReph, sRZwj, sZFola, cHas]

theorem ne_of_not_ben {c k : Nat} (hb : ¬ Ben c) (hk : Ben k) : c ≠ k := fun h => hb (h ▸ hk)

theorem isKar_ben {c : Nat} (h : isKar c = true) : Ben c := by
  simp only [isKar, Bool.and_eq_true, decide_eq_true_eq] at h
  simp only [karLo, karHi] at h
  simp only [Ben]; omega

theorem isFrontKar_ben {c : Nat} (h : isFrontKar c = true) : Ben c := by
  simp [isFrontKar, frontKarSet] at h
  rcases h with rfl | rfl | rfl <;> decide

theorem classify_plain {c : Nat} (hc : PlainN c) {st : St} (hs : st.hs = false) : classify c st = .other := by
  obtain ⟨hb, h1, h2, h3, h4, (e11 : c ≠ ZWNJ), (e10 : c ≠ ZWJ), (e8 : c ≠ B_DARI), (e9 : c ≠ B_DDARI)⟩ := hc
  -- the arms before `B_DARI` compare `c` with code points of the Bengali block
  have e1 : c ≠ B_O_KAR := ne_of_not_ben hb (by decide)
  have e2 : c ≠ B_OU_KAR := ne_of_not_ben hb (by decide)
  have e3 : ¬ isFrontKar c = true := fun h => hb (isFrontKar_ben h)
  have e4 : c ≠ B_U_KAR := ne_of_not_ben hb (by decide)
  have e5 : c ≠ B_RRI_KAR := ne_of_not_ben hb (by decide)
  have e6 : ¬ isKar c = true := fun h => hb (isKar_ben h)
  have e7 : c ≠ B_HASANTA := ne_of_not_ben hb (by decide)
  have e12 : ¬ ((benLo ≤ c ∧ c ≤ benHi) ∨ c = q1 ∨ c = q2 ∨ c = q3 ∨ c = q4) := by
    simp only [not_or]
    exact ⟨hb, h1, h2, h3, h4⟩
  simp only [classify, e1, e2, e3, e4, e5, e6, e7, e8, e9, e10, e11, e12, hs, false_and, if_false,
    Bool.false_eq_true]

theorem step_plain {c : Nat} (hc : PlainN c) (rpre : List Nat) {st : St} (hs : st.hs = false) :
    step rpre c st = .ok { rout := c :: convertBuffer st.buf st.rout, buf := [], hs := false } := by
  simp only [step, classify_plain hc hs, exec, hs]

theorem loop_plain {a : Nat} {as : List Nat} (h : ∀ c ∈ a :: as, PlainN c) (rpre : List Nat) {st : St} (hs : st.hs = false) :
    loop rpre (a :: as) st = .ok { rout := (a :: as).reverse ++ convertBuffer st.buf st.rout, buf := [], hs := false } := by
  induction as generalizing a rpre st with
  | nil => simp only [loop, step_plain (h a List.mem_cons_self) rpre hs, List.reverse_singleton, List.singleton_append]
  | cons b bs ih =>
    rw [loop, step_plain (h a List.mem_cons_self) rpre hs]
    dsimp only
    rw [ih (fun c hc => h c (List.mem_cons_of_mem _ hc)) _ rfl, convertBuffer_nil]
    simp

/-! ### plain text after hasanta-free text -/

/-- only a hasanta raises the `encountered_hasanta` flag -/
theorem step_hs {rpre : List Nat} {c : Nat} {st st' : St} (hc : c ≠ B_HASANTA) (hs : st.hs = false)
    (h : step rpre c st = .ok st') : st'.hs = false := by
  unfold step at h
  cases ha : classify c st <;> rw [ha] at h <;> simp only [exec] at h
  case hasanta => exact absurd (classify_hasanta ha) hc
  case afterHasanta => cases h; rfl
  case zwnj => split at h <;> cases h <;> first | rfl | exact hs
  case oKar | ouKar | frontKar | kar => split at h <;> cases h; exact hs
  all_goals cases h; exact hs

theorem loop_hs {s rpre : List Nat} {st st' : St} (hc : ∀ c ∈ s, c ≠ B_HASANTA) (hs : st.hs = false)
    (h : loop rpre s st = .ok st') : st'.hs = false :=
  loop_inv (I := fun st => st.hs = false) (fun c hc' => step_hs (hc c hc')) hs h

theorem loop_append (s p rpre : List Nat) (st : St) :
    loop rpre (s ++ p) st = (match loop rpre s st with
      | .error e => .error e
      | .ok st' => loop (s.reverse ++ rpre) p st') := by
  induction s generalizing rpre st with
  | nil => rfl
  | cons a as ih =>
    simp only [List.cons_append, loop]
    cases step rpre a st with
    | error e => rfl
    | ok st1 => simp only [ih, List.reverse_cons, List.append_assoc, List.singleton_append]

theorem encodeNat_append_plain {s p : List Nat} (hs : ∀ c ∈ s, c ≠ B_HASANTA) (hp : ∀ c ∈ p, PlainN c) :
    encodeNat (s ++ p) = (match encodeNat s with | .error e => .error e | .ok t => .ok (t ++ p)) := by
  cases p with
  | nil =>
    rw [List.append_nil]
    cases encodeNat s <;> simp
  | cons a as =>
    unfold encodeNat
    rw [loop_append]
    cases hl : loop [] s { rout := [], buf := [], hs := false } with
    | error e => rfl
    | ok st' =>
      simp only [loop_plain hp _ (loop_hs hs rfl hl)]
      cases st'.buf <;> simp [convertBuffer_nil]

/-- For test vectors written as string literals.  The kernel evaluates `"…".toList` by decoding the UTF-8 bytes of
    `String.ofList […]`, at a cost quadratic in the length; here the literal is unified with `String.ofList l` instead
    (it unfolds to that), so that only `bijoy l` is evaluated. -/
theorem bijoy_lit {l r : List Char} (h : bijoy l = .ok r) :
    bijoy (String.ofList l).toList = .ok (String.ofList r).toList := by
  rw [String.toList_ofList, String.toList_ofList]; exact h

end Riti.Bijoy
