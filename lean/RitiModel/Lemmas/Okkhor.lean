/-
Lemmas/Okkhor — where the characters of the okkhor transliteration come from: every output character is a
(case-folded) input character or a character of a replacement text of the generated pattern table.  One induction,
any character predicate; NUL-freedom (`okConvert_noNul`) and "no curly quote" (`okConvert_noCurly`) are instances.
By the same induction, with the replacement lengths read off the table: a text that is all punctuation does not
get longer (`okConvert_meta_length`; C18).
-/
import RitiModel.Model.Okkhor
import RitiModel.Model.Chars
namespace Riti
open Gen

/-! ### what `find_pattern` and the choice of the replacement return -/

theorem natPrefixOf_spec : ∀ (ns : List Nat) (cs : List Char), natPrefixOf ns cs = true →
    ns.length ≤ cs.length ∧ ∀ n ∈ ns, ∃ c ∈ cs, n = c.toNat
  | [], _, _ => ⟨by simp, by simp⟩
  | _ :: _, [], h => by simp [natPrefixOf] at h
  | n :: ns, c :: cs, h => by
    simp only [natPrefixOf, Bool.and_eq_true, beq_iff_eq] at h
    obtain ⟨h1, h2⟩ := natPrefixOf_spec ns cs h.2
    exact ⟨Nat.succ_le_succ h1, List.forall_mem_cons.2 ⟨⟨c, List.mem_cons_self, h.1⟩,
      fun m hm => (h2 m hm).imp fun _ hd => ⟨List.mem_cons_of_mem _ hd.1, hd.2⟩⟩⟩

theorem okFindPattern_spec {pats : List OkPattern} {input : List Char} {p : OkPattern}
    (h : okFindPattern pats input = some p) :
    p ∈ pats ∧ p.find.length > 0 ∧ natPrefixOf p.find input = true := by
  -- invariant of the fold: the statement, for the best pattern so far
  refine List.foldlRecOn pats _ (motive := fun best =>
    ∀ b, best = some b → b ∈ pats ∧ b.find.length > 0 ∧ natPrefixOf b.find input = true) (by simp) ?_ p h
  intro best hb q hq b hbb
  split at hbb
  · next hc =>
    simp only [Bool.and_eq_true, decide_eq_true_eq] at hc
    split at hbb
    · cases hbb; exact ⟨hq, hc⟩
    · split at hbb
      · cases hbb; exact ⟨hq, hc⟩
      · exact hb b hbb
  · exact hb b hbb

theorem okReplacement_mem (p : OkPattern) (pre suf : Char) :
    okReplacement p pre suf ∈ p.dflt :: p.rules.map Prod.snd := by
  unfold okReplacement
  split
  · next r hr => exact List.mem_cons_of_mem _ (List.mem_map_of_mem (List.mem_of_find?_eq_some hr))
  · exact List.mem_cons_self

/-! ### where the output characters come from -/

/-- the loop of okkhor's `convert_into` only outputs input characters and characters of replacement texts -/
theorem okLoop_all (P : Char → Prop) (pats : List OkPattern)
    (hp : ∀ p ∈ pats, ∀ r ∈ p.dflt :: p.rules.map Prod.snd, ∀ c ∈ natsToChars r, P c)
    (fuel : Nat) (input : List Char) (pre : Char) (out : List Char)
    (hi : ∀ c ∈ input, P c) (ho : ∀ c ∈ out, P c) : ∀ c ∈ okLoop pats fuel input pre out, P c := by
  fun_induction okLoop pats fuel input pre out with
  | case1 | case2 => exact ho
  | case3 fuel c cs pre out p hf rest suf pre' ih =>
    exact ih (fun d hd => hi d (List.mem_of_mem_drop hd))
      (List.forall_mem_append.mpr ⟨ho, hp p (okFindPattern_spec hf).1 _ (okReplacement_mem p _ _)⟩)
  | case4 fuel c cs pre out hf ih =>
    exact ih (fun d hd => hi d (List.mem_cons_of_mem _ hd))
      (List.forall_mem_append.mpr ⟨ho, fun d hd => List.mem_singleton.mp hd ▸ hi c List.mem_cons_self⟩)

/-- a character predicate that holds of every replacement text of the generated Avro table and is kept by
    `conditional_lowercase` is kept by the transliteration -/
theorem okConvert_all (P : Char → Prop)
    (htbl : ∀ p ∈ okkhorPatterns, ∀ r ∈ p.dflt :: p.rules.map Prod.snd, ∀ c ∈ natsToChars r, P c)
    (hlow : ∀ c, P c → P (condLower c)) {raw : List Char} (h : ∀ c ∈ raw, P c) : ∀ c ∈ okConvert raw, P c :=
  okLoop_all P _ htbl _ _ _ _ (List.forall_mem_map.mpr fun d hd => hlow d (h d hd)) (fun _ hc => nomatch hc)

/-! ### case folding: a character stays or becomes a lower-case ASCII letter -/

theorem asciiLower_cases (c : Char) : asciiLower c = c ∨ (97 ≤ (asciiLower c).toNat ∧ (asciiLower c).toNat ≤ 122) := by
  unfold asciiLower
  split
  · rename_i hc
    simp only [Bool.and_eq_true, decide_eq_true_eq] at hc
    have h1 : 65 ≤ c.toNat := hc.1
    have h2 : c.toNat ≤ 90 := hc.2
    exact .inr ((by decide +kernel : ∀ n < 91, 65 ≤ n → 97 ≤ (Char.ofNat (n + 32)).toNat ∧ (Char.ofNat (n + 32)).toNat ≤ 122)
      c.toNat (by omega) h1)
  · exact .inl rfl

theorem condLower_cases (c : Char) : condLower c = c ∨ (97 ≤ (condLower c).toNat ∧ (condLower c).toNat ≤ 122) := by
  unfold condLower
  simp only
  split
  · exact .inl rfl
  · exact asciiLower_cases c

/-! ### an all-punctuation text does not get longer -/

theorem ok_meta_patterns_short : ∀ p ∈ okkhorPatterns, p.find.all (fun n => metaSet.contains n) = true →
    ∀ r ∈ p.dflt :: p.rules.map Prod.snd, r.length ≤ p.find.length := by
  decide +kernel

private theorem condLower_meta (c : Char) (h : isMeta c = true) : condLower c = c := by
  have hall : ∀ n ∈ metaSet, condLower (Char.ofNat n) = Char.ofNat n := by decide +kernel
  simpa using hall c.toNat (List.contains_iff_mem.mp h)

theorem okLoop_meta_length {pats : List OkPattern}
    (hp : ∀ p ∈ pats, p.find.all (fun n => metaSet.contains n) = true →
      ∀ r ∈ p.dflt :: p.rules.map Prod.snd, r.length ≤ p.find.length)
    (fuel : Nat) (input : List Char) (pre : Char) (out : List Char) (hall : ∀ c ∈ input, isMeta c = true) :
    (okLoop pats fuel input pre out).length ≤ out.length + input.length := by
  fun_induction okLoop pats fuel input pre out with
  | case1 => omega
  | case2 => omega
  | case3 fuel c cs pre out p hf rest suf pre' ih =>
    obtain ⟨hmem, _, hpre⟩ := okFindPattern_spec hf
    obtain ⟨hlen, hchars⟩ := natPrefixOf_spec _ _ hpre
    -- the `find` is a prefix of the input, so all punctuation: its replacement is not longer
    have hrep := hp p hmem (List.all_eq_true.mpr fun n hn => by obtain ⟨d, hd, rfl⟩ := hchars n hn; exact hall d hd)
      _ (okReplacement_mem p pre suf)
    have ih := ih fun d hd => hall d (List.mem_of_mem_drop hd)
    simp only [List.length_append, natsToChars, List.length_map, rest, List.length_drop] at ih ⊢
    omega
  | case4 fuel c cs pre out hf ih =>
    have ih := ih fun d hd => hall d (List.mem_cons_of_mem _ hd)
    simp only [List.length_append, List.length_cons, List.length_nil] at ih ⊢
    omega

theorem okConvert_meta_length (s : List Char) (h : s.all isMeta = true) : (okConvert s).length ≤ s.length := by
  have hall := List.all_eq_true.mp h
  have hmap : s.map condLower = s := (List.map_congr_left fun c hc => condLower_meta c (hall c hc)).trans (List.map_id s)
  simpa [okConvert, hmap] using okLoop_meta_length ok_meta_patterns_short s.length s ' ' [] hall

end Riti
