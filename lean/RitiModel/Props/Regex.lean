/-
Props/Regex — the dictionary look-up of the phonetic method (`Model/Regex`):
the matcher decides exactly membership in the textbook language of the expression, the reader returns a bracketing of
exactly the text it was given, and `dictSearch` offers a word iff it is in one of the tables selected by the first typed
letter and in the language of the expression generated from the typed word.
That the look-up answers for EVERY typed word (the reader is total on generated expressions) is `Props/RegexTotal`.
-/
import RitiModel.Model.Regex
import RitiModel.Lemmas.Regex
import RitiModel.Lemmas.RegexTotal
namespace Riti.Regex
open Riti Riti.Gen

/-! ### 1. the matcher against the denotational semantics -/

/-- a matcher step for an expression whose words are the single characters satisfying `p` -/
private theorem char_m {r : Rx} {p : Char → Bool} (hr : ∀ w, Lang r w ↔ ∃ x, p x = true ∧ w = [x])
    (s : List Char) (k : List Char → Bool) :
    (match s with | x :: t => p x && k t | [] => false) = true ↔ ∃ s1 s2, s = s1 ++ s2 ∧ Lang r s1 ∧ k s2 = true := by
  simp only [hr]
  cases s with
  | nil => exact ⟨fun h => (by cases h), fun ⟨_, _, h, ⟨_, _, e⟩, _⟩ => by subst e; cases h⟩
  | cons x t =>
    simp only [Bool.and_eq_true]
    exact ⟨fun ⟨hp, hk⟩ => ⟨[x], t, rfl, ⟨x, hp, rfl⟩, hk⟩,
      fun ⟨_, _, h, ⟨y, hy, e⟩, hk⟩ => by subst e; cases h; exact ⟨hy, hk⟩⟩

/-- the continuation-passing matcher: `m r s k` holds iff `s` splits into a word of the language of `r` and a rest that
    the continuation accepts — for every expression, string and continuation -/
theorem m_spec (r : Rx) : ∀ (s : List Char) (k : List Char → Bool),
    r.m s k = true ↔ ∃ s1 s2, s = s1 ++ s2 ∧ Lang r s1 ∧ k s2 = true := by
  -- the empty word in front: the continuation gets the whole string
  have nil : ∀ (s : List Char) (k : List Char → Bool), (∃ s1 s2, s = s1 ++ s2 ∧ s1 = [] ∧ k s2 = true) ↔ k s = true :=
    fun s k => ⟨fun ⟨_, _, h, h1, h2⟩ => by subst h1; exact h ▸ h2, fun h => ⟨[], s, rfl, rfl, h⟩⟩
  induction r with
  | eps => intro s k; simp only [Rx.m, lang_eps_iff, nil]
  | chr c => exact char_m (p := (· == c)) (fun w => by simp [lang_chr_iff])
  | cls cs => exact char_m (p := cs.contains) (fun w => by simp [lang_cls_iff])
  | cat a b iha ihb =>
    intro s k
    simp only [Rx.m, lang_cat_iff, iha, ihb]
    constructor
    · rintro ⟨s1, _, rfl, ha, t1, t2, rfl, hb, hk⟩
      exact ⟨s1 ++ t1, t2, by simp, ⟨s1, t1, rfl, ha, hb⟩, hk⟩
    · rintro ⟨_, t2, rfl, ⟨s1, t1, rfl, ha, hb⟩, hk⟩
      exact ⟨s1, t1 ++ t2, by simp, ha, t1, t2, rfl, hb, hk⟩
  | alt a b iha ihb =>
    intro s k
    simp only [Rx.m, Bool.or_eq_true, lang_alt_iff, iha, ihb, or_and_right, and_or_left, exists_or]
  | opt a iha =>
    intro s k
    simp only [Rx.m, Bool.or_eq_true, lang_opt_iff, iha, or_and_right, and_or_left, exists_or, nil]
    exact or_comm
  | grp a iha => intro s k; simp only [Rx.m, lang_grp_iff, iha]

/-- `Regex::is_match` on an anchored expression, as modelled, decides exactly membership in the language: for EVERY
    expression and EVERY string, with no bound on either -/
theorem matches_iff (r : Rx) (s : List Char) : r.matches s = true ↔ Lang r s := by
  -- the continuation accepts only the empty rest
  simp only [Rx.matches, m_spec, List.isEmpty_iff, exists_eq_right_right, List.append_nil, exists_eq_left']

theorem matches_false_iff (r : Rx) (s : List Char) : r.matches s = false ↔ ¬ Lang r s := by
  rw [← matches_iff]; simp

/-- membership in the language of an expression is decidable — by running the matcher -/
instance (r : Rx) (s : List Char) : Decidable (Lang r s) := decidable_of_iff _ (matches_iff r s)

/-! ### 2. length bounds -/

/-- every word of the language of `r` has between `r.minLen` and `r.maxLen` characters: the languages are finite and a
    typed word of `n` patterns can only ever select dictionary words of bounded length -/
theorem lang_length {r : Rx} {s : List Char} (h : Lang r s) : r.minLen ≤ s.length ∧ s.length ≤ r.maxLen := by
  induction h with
  | _ => simp only [Rx.minLen, Rx.maxLen, List.length_append, List.length_nil, List.length_singleton]; omega

theorem matches_length {r : Rx} {s : List Char} (h : r.matches s = true) :
    r.minLen ≤ s.length ∧ s.length ≤ r.maxLen := lang_length ((matches_iff r s).1 h)

/-- a string longer than `maxLen` (or shorter than `minLen`) is never matched -/
theorem matches_false_of_length {r : Rx} {s : List Char} (h : s.length < r.minLen ∨ r.maxLen < s.length) :
    r.matches s = false :=
  Bool.eq_false_iff.2 fun hm => by have := matches_length hm; omega

/-! ### 3. the reader is faithful to the text -/

/-- `parseAlt` (alternations) returns an expression whose text, followed by what it left unread, is exactly the text it
    was given: no character dropped, invented or reordered -/
theorem parse_render {f : Nat} {s rest : List Char} {r : Rx} (h : parseAlt f s = some (r, rest)) :
    r.render ++ rest = s := (((parse_iff f).1 s r rest).1 h).2.1.symm

/-- `parseCat` (concatenations): the text of the result followed by the unread rest is the input -/
theorem parseCat_render {f : Nat} {s rest : List Char} {r : Rx} (h : parseCat f s = some (r, rest)) :
    r.render ++ rest = s := (((parse_iff f).2.1 s r rest).1 h).2.1.symm

/-- `parseAtom` (group, set or literal): the text of the result followed by the unread rest is the input -/
theorem parseAtom_render {f : Nat} {s rest : List Char} {r : Rx} (h : parseAtom f s = some (r, rest)) :
    r.render ++ rest = s := (((parse_iff f).2.2 s r rest).1 h).2.1.symm

/-- a whole expression that the reader accepts is, character for character, the text of the AST it returns -/
theorem parseRx_render {s : List Char} {r : Rx} (h : parseRx s = some r) : r.render = s := (parseRx_iff.1 h).2

/-- an anchored expression that the reader accepts is `^`, the text of the AST, `$` -/
theorem parseAnchored_render {s : List Char} {r : Rx} : parseAnchored s = some r → s = '^' :: r.render ++ ['$'] := by
  fun_cases parseAnchored s with
  | case1 t hl =>
    intro h
    obtain ⟨ys, rfl⟩ := List.getLast?_eq_some_iff.1 hl
    rw [List.dropLast_concat] at h
    rw [parseRx_render h]; rfl
  | case2 | case3 | case4 => nofun

/-- rendering is injective on what the reader returns: two accepted texts with the same AST are the same text -/
theorem parseRx_inj {s t : List Char} {r : Rx} (hs : parseRx s = some r) (ht : parseRx t = some r) : s = t := by
  rw [← parseRx_render hs, ← parseRx_render ht]

/-! ### 4. the look-up -/

/-- the look-up fails (in the model) only when the generated expression is outside the syntax read here -/
theorem dictSearch_none_iff (dict : String → List (List Char)) (w : List Char) :
    dictSearch dict w = none ↔ parseAnchored (rxString w) = none := by
  unfold dictSearch; cases parseAnchored (rxString w) <;> simp

/-- the look-up is a filter: the words of the selected tables, in table order then file order, multiplicities kept,
    restricted to those the expression generated from the typed word matches; and that expression is a bracketing of
    exactly the generated text -/
theorem dictSearch_eq_filter {dict : String → List (List Char)} {w : List Char} {ws : List (List Char)}
    (h : dictSearch dict w = some ws) :
    ∃ r, parseAnchored (rxString w) = some r ∧ rxString w = '^' :: r.render ++ ['$'] ∧
      ws = ((tablesFor phoneticTables w).flatMap dict).filter r.matches := by
  unfold dictSearch at h
  cases hp : parseAnchored (rxString w) with
  | none => simp [hp] at h
  | some r =>
    simp only [hp, Option.some.injEq] at h
    exact ⟨r, rfl, parseAnchored_render hp, h.symm⟩

/-- THE LOOK-UP SPECIFICATION.  Whenever the look-up answers, there is an expression `r`, read from the text generated
    for the typed word, such that
    * (sound and complete) a candidate is offered iff it is a word of one of the tables selected by the first typed
      letter and belongs to the language of `r`;
    * the candidates come in table order then file order, nothing duplicated or reordered;
    * every candidate has a length between `r.minLen` and `r.maxLen`. -/
theorem dictSearch_spec {dict : String → List (List Char)} {w : List Char} {ws : List (List Char)}
    (h : dictSearch dict w = some ws) :
    ∃ r, parseAnchored (rxString w) = some r ∧
      (∀ c, c ∈ ws ↔ (∃ t ∈ tablesFor phoneticTables w, c ∈ dict t) ∧ Lang r c) ∧
      ws.Sublist ((tablesFor phoneticTables w).flatMap dict) ∧
      (∀ c ∈ ws, r.minLen ≤ c.length ∧ c.length ≤ r.maxLen) := by
  obtain ⟨r, hp, _, rfl⟩ := dictSearch_eq_filter h
  refine ⟨r, hp, ?_, List.filter_sublist, ?_⟩
  · intro c
    simp only [List.mem_filter, List.mem_flatMap, matches_iff]
  · intro c hc
    exact matches_length (List.mem_filter.1 hc).2

/-- every word the look-up offers is a word of a selected table -/
theorem dictSearch_mem_table {dict : String → List (List Char)} {w : List Char} {l : List (List Char)}
    (h : dictSearch dict w = some l) {s : List Char} (hs : s ∈ l) : ∃ t ∈ tablesFor phoneticTables w, s ∈ dict t := by
  obtain ⟨r, _, hspec, _, _⟩ := dictSearch_spec h
  exact ((hspec s).1 hs).1

/-- completeness on its own: a dictionary word of a selected table that is in the language IS offered -/
theorem dictSearch_complete {dict : String → List (List Char)} {w : List Char} {ws : List (List Char)} {r : Rx}
    (h : dictSearch dict w = some ws) (hr : parseAnchored (rxString w) = some r)
    {t : String} (ht : t ∈ tablesFor phoneticTables w) {c : List Char} (hc : c ∈ dict t) (hl : Lang r c) : c ∈ ws := by
  rw [dictSearch, hr, Option.some.injEq] at h
  exact h ▸ List.mem_filter.2 ⟨List.mem_flatMap.2 ⟨t, ht, hc⟩, (matches_iff r c).2 hl⟩

/-- only the first typed character selects the tables -/
theorem tablesFor_cons (tbl : List (String × List String)) (c : Char) (t : List Char) :
    tablesFor tbl (c :: t) = tablesFor tbl [c] := rfl

/-- every key of the regenerated table is one lower-case ASCII letter -/
theorem phoneticTables_keys :
    phoneticTables.all (fun r => match r.1.toList with | [k] => 'a' ≤ k && k ≤ 'z' | _ => false) = true := by decide +kernel

/-- the 26 keys are the 26 letters, each once, in alphabetical order -/
theorem phoneticTables_keys_eq :
    phoneticTables.map (fun r => r.1.toList) = (List.range 26).map (fun i => [Char.ofNat (97 + i)]) := by decide +kernel

/-- the empty word, and every word whose first character is not one of the 26 lower-case ASCII letters (an UPPER-case
    letter, a digit, a Bengali letter, …), selects no table at all -/
theorem tablesFor_nil_of_nonletter (w : List Char)
    (h : w = [] ∨ ∃ c t, w = c :: t ∧ ¬ ('a' ≤ c ∧ c ≤ 'z')) : tablesFor phoneticTables w = [] := by
  rcases h with rfl | ⟨c, t, rfl, hc⟩
  · rfl
  · have hn : phoneticTables.find? (fun r => r.1 == String.singleton c) = none := by
      rw [List.find?_eq_none]
      intro x hx hxc
      have hk := List.all_eq_true.1 phoneticTables_keys x hx
      have : x.1 = String.singleton c := by simpa using hxc
      rw [this, String.toList_singleton] at hk
      simp only [Bool.and_eq_true, decide_eq_true_eq] at hk
      exact hc hk
    unfold tablesFor firstByte
    by_cases h128 : c.toNat < 128 <;> simp [h128, hn]

/-- a word that does not start with a lower-case ASCII letter gets nothing from the dictionary -/
theorem dictSearch_nonletter (dict : String → List (List Char)) (w : List Char)
    (h : w = [] ∨ ∃ c t, w = c :: t ∧ ¬ ('a' ≤ c ∧ c ≤ 'z')) :
    dictSearch dict w = some [] ∨ dictSearch dict w = none := by
  unfold dictSearch
  rw [tablesFor_nil_of_nonletter w h]
  cases parseAnchored (rxString w) <;> simp

/-- in particular a word typed with a leading capital (`Sesh`, `Ami`) gets nothing from the dictionary: the table is
    selected with the raw first byte although the expression is generated from the lower-cased word -/
theorem dictSearch_upper (dict : String → List (List Char)) (c : Char) (t : List Char) (h : 'A' ≤ c ∧ c ≤ 'Z') :
    dictSearch dict (c :: t) = some [] ∨ dictSearch dict (c :: t) = none := by
  refine dictSearch_nonletter dict _ (.inr ⟨c, t, rfl, ?_⟩)
  intro h2
  have h1 : c.toNat ≤ 90 := h.2
  have h3 : 97 ≤ c.toNat := h2.1
  omega

/-- a word starting with a digit gets nothing from the dictionary either -/
theorem dictSearch_digit (dict : String → List (List Char)) (c : Char) (t : List Char) (h : isAsciiDigit c = true) :
    dictSearch dict (c :: t) = some [] ∨ dictSearch dict (c :: t) = none := by
  refine dictSearch_nonletter dict _ (.inr ⟨c, t, rfl, ?_⟩)
  intro h2
  simp only [isAsciiDigit, Bool.and_eq_true, decide_eq_true_eq] at h
  have h1 : c.toNat ≤ 57 := h.2
  have h3 : 97 ≤ c.toNat := h2.1
  omega

/-- conversely each of the 26 lower-case letters does select at least one table -/
theorem tablesFor_letter (c : Char) (t : List Char) (h : 'a' ≤ c ∧ c ≤ 'z') :
    tablesFor phoneticTables (c :: t) ≠ [] := by
  have key : ∀ n : Fin 26, tablesFor phoneticTables [Char.ofNat (97 + n.val)] ≠ [] := by decide +kernel
  have h1 : 97 ≤ c.toNat := h.1
  have h2 : c.toNat ≤ 122 := h.2
  have := key ⟨c.toNat - 97, by omega⟩
  rw [tablesFor_cons]
  have e : 97 + (c.toNat - 97) = c.toNat := by omega
  simpa [e] using this

/-! ### 5. samples (kernel-checked; non-vacuity of the hypotheses above) -/

/-- the expression generated for `ami`, evaluated once; the samples about `ami` start from this text.  (In the kernel
    nearly all the cost of a sample is `String.toList` on the literals of the pattern table, not the reader or matcher.) -/
theorem rxString_ami : rxString "ami".toList = [
    '^', '(', '(', '[', 'অ', 'এ', ']', '্', 'য', 'া', '?', ')', '|', '[', 'আ', 'এ', ']', '|', '(', '[', '\u200c',
     '\u200d', ']', '?', '(', '্', 'য', ')', '?', 'া', ')', '|', '(', 'য়', 'া', ')', ')', '(', '্', '[', 'য', 'ব',
     'ম', ']', ')', '?', '(', '্', '?', ')', '(', '[', 'ঃ', 'ঁ', ']', '?', ')', 'ম', '(', '্', '[', 'য', 'ব', 'ম',
     ']', ')', '?', '(', '্', '?', ')', '(', '[', 'ঃ', 'ঁ', ']', '?', ')', '(', '[', 'ই', 'ঈ', 'ি', 'ী', ']', '|',
     '(', 'য়', '[', 'ি', 'ী', ']', ')', ')', '(', '্', '[', 'য', 'ব', 'ম', ']', ')', '?', '(', '্', '?', ')', '(',
     '[', 'ঃ', 'ঁ', ']', '?', ')', '$'] := by
  rw [String.toList_ofList]; decide +kernel

/-- `k.k!`: ASCII punctuation removed → `kk`; a Bengali letter is copied -/
example : rxString "k.k!".toList = "^(ক্?ক?)(্[যবম])?(্?)([ঃঁ]?)$".toList := by decide +kernel
example : rxString "ক".toList = "^ক$".toList := by decide +kernel

/-- the bounds are not trivial: `ami` selects only words of 3 to 19 code points -/
example : (parseAnchored (rxString "ami".toList)).map (fun r => (r.minLen, r.maxLen)) = some (3, 19) := by
  rw [rxString_ami]; decide +kernel

/-- the reader rejects what is outside the fragment instead of guessing -/
example : parseRx "a*".toList = none := by decide +kernel
example : parseRx "[a-z]".toList = none := by decide +kernel
example : parseRx "(a".toList = none := by decide +kernel
example : parseRx "a)".toList = none := by decide +kernel
example : parseRx "(a|[bc])?d".toList =
    some (.cat (.opt (.grp (.alt (.cat (.chr 'a') .eps) (.cat (.cls ['b', 'c']) .eps)))) (.cat (.chr 'd') .eps)) := by
  decide +kernel

/-- a tiny dictionary: five tables, the others empty -/
def tinyDict (t : String) : List (List Char) :=
  if t == "a" then ["আমি".toList, "আম".toList, "অমি".toList, "আমি".toList] else
  if t == "e" then ["এমি".toList, "এমু".toList] else
  if t == "k" then ["ক".toList, "কা".toList, "ক্য".toList] else
  if t == "kh" then ["খ".toList, "ক্ষ".toList] else
  if t == "s" then ["শেষ".toList, "সেশ".toList] else []

/-- `ami`: tables a, aa, e, oi, o, nya, y; `আম` (too short), `অমি` (wrong vowel) and `এমু` are rejected, the duplicate is
    kept, table order is kept -/
theorem dictSearch_ami : dictSearch tinyDict "ami".toList = some ["আমি".toList, "আমি".toList, "এমি".toList] := by
  rw [dictSearch, rxString_ami]; decide +kernel
example : dictSearch tinyDict "ami".toList = some ["আমি".toList, "আমি".toList, "এমি".toList] := dictSearch_ami
/-- `k`: tables k, kh; `কা`, `খ`, `ক্ষ` rejected, `ক্য` accepted through the `EXTRA` suffix -/
example : dictSearch tinyDict "k".toList = some ["ক".toList, "ক্য".toList] := by decide +kernel
/-- `sesh` finds both spellings (`Sesh`, with a capital, finds nothing: `Props/RegexTotal`) -/
example : dictSearch tinyDict "sesh".toList = some ["শেষ".toList, "সেশ".toList] := by decide +kernel
/-- `a1`: the expression is fine but no dictionary word matches `…(১|(1)|(এক))…` -/
example : dictSearch tinyDict "a1".toList = some [] := by decide +kernel
/-- a leading digit selects no table -/
example : tablesFor phoneticTables "1a".toList = [] := by decide +kernel
example : tablesFor phoneticTables "ami".toList = ["a", "aa", "e", "oi", "o", "nya", "y"] := by decide +kernel

/-- reading a kernel-evaluated sample as a statement about `Lang` -/
theorem lang_sample {o : Option Rx} {s t : List Char}
    (h : o.any (fun r => r.matches s && !r.matches t) = true) : ∃ r, o = some r ∧ Lang r s ∧ ¬ Lang r t := by
  obtain ⟨r, rfl, hr⟩ := (Option.any_eq_true _ _).1 h
  rw [Bool.and_eq_true, Bool.not_eq_true'] at hr
  exact ⟨r, rfl, (matches_iff r s).1 hr.1, (matches_false_iff r t).1 hr.2⟩

/-- `Lang` itself on a concrete Bengali word: `আমি` is in the language of the expression generated for `ami`, `আম` is
    not (through `matches_iff`: the matcher is a decision procedure for `Lang`) -/
theorem ami_sample : (parseAnchored (rxString "ami".toList)).any
    (fun r => r.matches "আমি".toList && !r.matches "আম".toList) = true := by
  rw [rxString_ami]; decide +kernel
example : ∃ r, parseAnchored (rxString "ami".toList) = some r ∧ Lang r "আমি".toList ∧ ¬ Lang r "আম".toList :=
  lang_sample ami_sample

/-- `Lang` by hand, without the matcher: `ক্য` ∈ L(`ক(্[যবম])?`) -/
example : Lang (.cat (.chr 'ক') (.opt (.grp (.cat (.chr '্') (.cls ['য', 'ব', 'ম']))))) ['ক', '্', 'য'] :=
  .cat (s := ['ক']) (t := ['্', 'য']) (.chr _) (.optSome (.grp (.cat (s := ['্']) (t := ['য']) (.chr _) (.cls (by decide)))))

/-- the hypotheses of `dictSearch_spec` are satisfiable with a non-empty answer -/
example : ∃ ws, dictSearch tinyDict "ami".toList = some ws ∧ ws ≠ [] :=
  ⟨_, dictSearch_ami, by simp⟩

end Riti.Regex
